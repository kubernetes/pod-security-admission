import Psa.Admission
import Psa.Admit
import Psa.AdmitCases
import Psa.AdmitIO
import Psa.AdmitProps
import Psa.Api
import Psa.ApiProofs
import Psa.C02
import Psa.C02Bridge
import Psa.C03Bridge
import Psa.Checks
import Psa.Config
import Psa.ConfigIO
import Psa.ConfigProofs
import Psa.Deps
import Psa.Digits
import Psa.DryRun
import Psa.DryRunProofs
import Psa.Eval
import Psa.EvalProofs
import Psa.Examples
import Psa.ExpectedFacts
import Psa.Extract
import Psa.FixtureCheck
import Psa.Fixtures.F0
import Psa.Fixtures.F1
import Psa.Fixtures.F10
import Psa.Fixtures.F11
import Psa.Fixtures.F12
import Psa.Fixtures.F13
import Psa.Fixtures.F14
import Psa.Fixtures.F15
import Psa.Fixtures.F2
import Psa.Fixtures.F3
import Psa.Fixtures.F4
import Psa.Fixtures.F5
import Psa.Fixtures.F6
import Psa.Fixtures.F7
import Psa.Fixtures.F8
import Psa.Fixtures.F9
import Psa.Generated.Facts
import Psa.Generated.Meta
import Psa.Generated.Tables
import Psa.JsonIO
import Psa.Metrics
import Psa.MetricsCache
import Psa.MetricsIO
import Psa.NamesClean
import Psa.NamesProofs
import Psa.Namespace
import Psa.NamespaceProofs
import Psa.Pod
import Psa.Props.C01
import Psa.Props.C02
import Psa.Props.C03
import Psa.Props.C04
import Psa.Props.C05
import Psa.Props.C06
import Psa.Props.C07
import Psa.Props.C08
import Psa.Props.C09
import Psa.Props.C10
import Psa.Props.C11
import Psa.Props.C12
import Psa.Props.C13
import Psa.Props.C14
import Psa.Props.C15
import Psa.Props.C16
import Psa.Props.C17
import Psa.Props.C18
import Psa.Props.C19
import Psa.Props.C20
import Psa.QuoteMain
import Psa.QuoteProofs
import Psa.QuoteShapes
import Psa.Registry
import Psa.RegistryProofs
import Psa.RegistrySpec
import Psa.Render
import Psa.RenderProofs
import Psa.Result
import Psa.Review
import Psa.ReviewProofs
import Psa.Revs
import Psa.Setup
import Psa.Shipped
import Psa.ShippedProofs
import Psa.SortProofs
import Psa.Standard
import Psa.StandardTables
import Psa.StdEval
import Psa.StoreMachine
import Psa.Str
import Psa.SubsetOrder
import Psa.ValidateProofs
import Psa.Webhook
