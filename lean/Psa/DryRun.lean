import Psa.Str
namespace PSA

/-- Go's `a < b` on strings (bytewise lexicographic) -/
def slt (a b : Str) : Bool := decide (a < b)

structure Group where
  warning : Str
  first : Str
  count : Nat
  deriving DecidableEq, Repr

/-- `podWarningsToCount` + `podWarnings`: association list in first-seen order -/
def addPod (gs : List Group) (w name : Str) : List Group :=
  match gs with
  | [] => [⟨w, name, 1⟩]
  | g :: rest =>
    if g.warning = w then { g with first := if slt name g.first then name else g.first, count := g.count + 1 } :: rest
    else g :: addPod rest w name

/-- the loop body over the violating pods (name, aggregate reason text), in evaluation order -/
def groupsLoop (W : List (Str × Str)) : List Group := W.foldl (fun gs x => addPod gs x.2 x.1) []

/-! ### declarative description -/

def keysOf (W : List (Str × Str)) : List Str :=
  W.foldl (fun acc x => if x.2 ∈ acc then acc else acc ++ [x.2]) []

def namesOf (w : Str) (W : List (Str × Str)) : List Str := (W.filter (fun x => x.2 = w)).map (·.1)

def minStr (a : Str) (l : List Str) : Str := l.foldl (fun a b => if slt b a then b else a) a

def firstOf (l : List Str) : Str := match l with | [] => [] | a :: as => minStr a as

def groupFor (W : List (Str × Str)) (w : Str) : Group := ⟨w, firstOf (namesOf w W), (namesOf w W).length⟩

def groupsSpec (W : List (Str × Str)) : List Group := (keysOf W).map (groupFor W)

end PSA
