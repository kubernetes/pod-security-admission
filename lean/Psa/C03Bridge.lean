import Psa.EvalProofs
/-! The order of the levels on what the driver computes. It needs two side conditions on the regenerated tables and their
    name for the windows OS, not the table equality of C02. -/
namespace PSA

theorem tables_ok : TablesOK Generated.tables := ⟨by decide +kernel, by decide +kernel⟩
theorem tables_windows : Generated.tables.windows = b!"windows" := by decide +kernel

theorem relaxing_level (relax : Bool) (l₁ l₂ : Level) (v : Ver) (p : Pod) (hv : v.requestable) (hp : ApiValid p)
    (hl : compareLevels l₂ l₁ ≤ 0)
    (h : (aggregate (evalPodModel Generated.tables relax ⟨l₁, v⟩ p)).allowed = true) :
    (aggregate (evalPodModel Generated.tables relax ⟨l₂, v⟩ p)).allowed = true := by
  rw [evalPodModel_allowed] at h ⊢
  exact C03_relaxing_level _ tables_ok relax l₁ l₂ v p hv ((apiValid_tables _ tables_windows p).mp hp) hl h

end PSA
