import Psa.EvalProofs
/-! Statements that need the regenerated tables to be the published ones (used by Props/C01 and Props/C02 only). -/
namespace PSA

/-- tie obligation: the allow-lists regenerated from /repo are the published ones -/
theorem tables_published : Generated.tables = Std.publishedTables := by decide +kernel

theorem C02_restricted_iff (v : Ver) (p : Pod) (hv : v.requestable) (hp : ApiValid p) :
    (aggregate (evalPodModel Generated.tables false ⟨.restricted, v⟩ p)).allowed = true ↔
      Std.restricted Std.publishedTables (clampV 32 v) p := by
  rw [evalPodModel_allowed, tables_published]
  exact PSA.C02_restricted _ ⟨by decide, by decide⟩ v p hv ((apiValid_tables _ rfl p).mp hp)

end PSA
