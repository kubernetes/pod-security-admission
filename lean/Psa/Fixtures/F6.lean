import Psa.FixtureCheck
/-! GENERATED by the harness (FIXTURES-GEN) from package test of /repo — do not edit. Chunk 6 of 16 of the distinct
    conformance fixtures (level, revision signature of the version, control, pass/fail, pod). -/
namespace PSA.Fixtures
open PSA

def chunk6 : List Fixture := [
  { level := .restricted, minor := 0, check := b!"appArmorProfile", pass := true, pod := { annotations := [(b!"container.apparmor.security.beta.kubernetes.io/container1", b!"localhost/foo")], sc := some { runAsNonRoot := some (true) }, initContainers := [{ name := b!"initcontainer1", image := b!"registry.k8s.io/pause" }], containers := [{ name := b!"container1", image := b!"registry.k8s.io/pause" }] } },
  { level := .restricted, minor := 0, check := b!"appArmorProfile", pass := false, pod := { annotations := [(b!"container.apparmor.security.beta.kubernetes.io/container1", b!"unconfined")], sc := some { runAsNonRoot := some (true) }, initContainers := [{ name := b!"initcontainer1", image := b!"registry.k8s.io/pause" }], containers := [{ name := b!"container1", image := b!"registry.k8s.io/pause" }] } },
  { level := .restricted, minor := 0, check := b!"appArmorProfile", pass := false, pod := { annotations := [(b!"container.apparmor.security.beta.kubernetes.io/initcontainer1", b!"unconfined")], sc := some { runAsNonRoot := some (true) }, initContainers := [{ name := b!"initcontainer1", image := b!"registry.k8s.io/pause" }], containers := [{ name := b!"container1", image := b!"registry.k8s.io/pause" }] } },
  { level := .baseline, minor := 0, check := b!"seccompProfile_baseline", pass := false, pod := { annotations := [(b!"container.seccomp.security.alpha.kubernetes.io/initcontainer1", b!"unconfined")], initContainers := [{ name := b!"initcontainer1", image := b!"registry.k8s.io/pause" }], containers := [{ name := b!"container1", image := b!"registry.k8s.io/pause" }] } },
  { level := .restricted, minor := 27, check := b!"hostPorts", pass := true, pod := { sc := some { runAsNonRoot := some (true), seccompType := some (b!"RuntimeDefault") }, initContainers := [{ name := b!"initcontainer1", image := b!"registry.k8s.io/pause", hostPorts := [0], sc := some { allowPrivEsc := some (false), caps := some { add := [], drop := [b!"ALL"] } } }], containers := [{ name := b!"container1", image := b!"registry.k8s.io/pause", hostPorts := [0], sc := some { allowPrivEsc := some (false), caps := some { add := [], drop := [b!"ALL"] } } }] } },
  { level := .restricted, minor := 27, check := b!"hostPorts", pass := false, pod := { sc := some { runAsNonRoot := some (true), seccompType := some (b!"RuntimeDefault") }, initContainers := [{ name := b!"initcontainer1", image := b!"registry.k8s.io/pause", hostPorts := [12346, 0], sc := some { allowPrivEsc := some (false), caps := some { add := [], drop := [b!"ALL"] } } }], containers := [{ name := b!"container1", image := b!"registry.k8s.io/pause", hostPorts := [12345, 0], sc := some { allowPrivEsc := some (false), caps := some { add := [], drop := [b!"ALL"] } } }] } },
  { level := .restricted, minor := 27, check := b!"hostPorts", pass := false, pod := { sc := some { runAsNonRoot := some (true), seccompType := some (b!"RuntimeDefault") }, initContainers := [{ name := b!"initcontainer1", image := b!"registry.k8s.io/pause", sc := some { allowPrivEsc := some (false), caps := some { add := [], drop := [b!"ALL"] } } }], containers := [{ name := b!"container1", image := b!"registry.k8s.io/pause", hostPorts := [12345], sc := some { allowPrivEsc := some (false), caps := some { add := [], drop := [b!"ALL"] } } }] } },
  { level := .baseline, minor := 0, check := b!"", pass := true, pod := { initContainers := [{ name := b!"initcontainer1", image := b!"registry.k8s.io/pause" }], containers := [{ name := b!"container1", image := b!"registry.k8s.io/pause" }] } },
  { level := .baseline, minor := 31, check := b!"hostPathVolumes", pass := false, pod := { initContainers := [{ name := b!"initcontainer1", image := b!"registry.k8s.io/pause" }], containers := [{ name := b!"container1", image := b!"registry.k8s.io/pause" }], volumes := [{ name := b!"volume-hostpath-a", sources := [.hostPath] }, { name := b!"volume-hostpath-b", sources := [.hostPath] }] } },
  { level := .baseline, minor := 27, check := b!"sysctls", pass := true, pod := { sc := some {  }, initContainers := [{ name := b!"initcontainer1", image := b!"registry.k8s.io/pause" }], containers := [{ name := b!"container1", image := b!"registry.k8s.io/pause" }] } },
  { level := .restricted, minor := 0, check := b!"restrictedVolumes", pass := false, pod := { sc := some { runAsNonRoot := some (true) }, initContainers := [{ name := b!"initcontainer1", image := b!"registry.k8s.io/pause" }], containers := [{ name := b!"container1", image := b!"registry.k8s.io/pause" }], volumes := [{ name := b!"volume1", sources := [.fc] }] } },
  { level := .restricted, minor := 23, check := b!"allowPrivilegeEscalation", pass := false, pod := { sc := some { runAsNonRoot := some (true), seccompType := some (b!"RuntimeDefault") }, initContainers := [{ name := b!"initcontainer1", image := b!"registry.k8s.io/pause", sc := some { allowPrivEsc := some (false), caps := some { add := [], drop := [b!"ALL"] } } }], containers := [{ name := b!"container1", image := b!"registry.k8s.io/pause" }] } },
  { level := .baseline, minor := 19, check := b!"hostNamespaces", pass := false, pod := { hostNetwork := true, initContainers := [{ name := b!"initcontainer1", image := b!"registry.k8s.io/pause" }], containers := [{ name := b!"container1", image := b!"registry.k8s.io/pause" }] } },
  { level := .restricted, minor := 27, check := b!"capabilities_restricted", pass := false, pod := { sc := some { runAsNonRoot := some (true), seccompType := some (b!"RuntimeDefault") }, initContainers := [{ name := b!"initcontainer1", image := b!"registry.k8s.io/pause", sc := some { allowPrivEsc := some (false), caps := some { add := [b!"AUDIT_WRITE", b!"CHOWN", b!"DAC_OVERRIDE", b!"FOWNER", b!"FSETID", b!"KILL", b!"MKNOD", b!"NET_BIND_SERVICE", b!"SETFCAP", b!"SETGID", b!"SETPCAP", b!"SETUID", b!"SYS_CHROOT"], drop := [b!"ALL"] } } }], containers := [{ name := b!"container1", image := b!"registry.k8s.io/pause", sc := some { allowPrivEsc := some (false), caps := some { add := [b!"AUDIT_WRITE", b!"CHOWN", b!"DAC_OVERRIDE", b!"FOWNER", b!"FSETID", b!"KILL", b!"MKNOD", b!"NET_BIND_SERVICE", b!"SETFCAP", b!"SETGID", b!"SETPCAP", b!"SETUID", b!"SYS_CHROOT"], drop := [b!"ALL"] } } }] } },
  { level := .restricted, minor := 23, check := b!"capabilities_restricted", pass := true, pod := { sc := some { runAsNonRoot := some (true), seccompType := some (b!"RuntimeDefault") }, initContainers := [{ name := b!"initcontainer1", image := b!"registry.k8s.io/pause", sc := some { allowPrivEsc := some (false), caps := some { add := [b!"NET_BIND_SERVICE"], drop := [b!"ALL"] } } }], containers := [{ name := b!"container1", image := b!"registry.k8s.io/pause", sc := some { allowPrivEsc := some (false), caps := some { add := [b!"NET_BIND_SERVICE"], drop := [b!"ALL"] } } }] } },
  { level := .restricted, minor := 23, check := b!"capabilities_baseline", pass := false, pod := { sc := some { runAsNonRoot := some (true), seccompType := some (b!"RuntimeDefault") }, initContainers := [{ name := b!"initcontainer1", image := b!"registry.k8s.io/pause", sc := some { allowPrivEsc := some (false), caps := some { add := [], drop := [b!"ALL"] } } }], containers := [{ name := b!"container1", image := b!"registry.k8s.io/pause", sc := some { allowPrivEsc := some (false), caps := some { add := [b!"chown"], drop := [b!"ALL"] } } }] } },
  { level := .restricted, minor := 23, check := b!"procMount", pass := true, pod := { hostUsers := some (false), sc := some { runAsNonRoot := some (true), seccompType := some (b!"RuntimeDefault") }, initContainers := [{ name := b!"initcontainer1", image := b!"registry.k8s.io/pause", sc := some { allowPrivEsc := some (false), caps := some { add := [], drop := [b!"ALL"] }, procMount := some (b!"Default") } }], containers := [{ name := b!"container1", image := b!"registry.k8s.io/pause", sc := some { allowPrivEsc := some (false), caps := some { add := [], drop := [b!"ALL"] }, procMount := some (b!"Default") } }] } },
  { level := .restricted, minor := 27, check := b!"runAsNonRoot", pass := false, pod := { sc := some { runAsNonRoot := some (true), seccompType := some (b!"RuntimeDefault") }, initContainers := [{ name := b!"initcontainer1", image := b!"registry.k8s.io/pause", sc := some { allowPrivEsc := some (false), caps := some { add := [], drop := [b!"ALL"] } } }], containers := [{ name := b!"container1", image := b!"registry.k8s.io/pause", sc := some { allowPrivEsc := some (false), caps := some { add := [], drop := [b!"ALL"] }, runAsNonRoot := some (false) } }] } },
  { level := .restricted, minor := 22, check := b!"seccompProfile_restricted", pass := true, pod := { sc := some { runAsNonRoot := some (true) }, initContainers := [{ name := b!"initcontainer1", image := b!"registry.k8s.io/pause", sc := some { allowPrivEsc := some (false), caps := some { add := [], drop := [b!"ALL"] }, seccompType := some (b!"Localhost") } }], containers := [{ name := b!"container1", image := b!"registry.k8s.io/pause", sc := some { allowPrivEsc := some (false), caps := some { add := [], drop := [b!"ALL"] }, seccompType := some (b!"RuntimeDefault") } }] } },
  { level := .restricted, minor := 25, check := b!"seccompProfile_restricted", pass := false, pod := { sc := some { runAsNonRoot := some (true) }, initContainers := [{ name := b!"initcontainer1", image := b!"registry.k8s.io/pause", sc := some { allowPrivEsc := some (false), caps := some { add := [], drop := [b!"ALL"] } } }], containers := [{ name := b!"container1", image := b!"registry.k8s.io/pause", sc := some { allowPrivEsc := some (false), caps := some { add := [], drop := [b!"ALL"] }, seccompType := some (b!"RuntimeDefault") } }] } },
  { level := .restricted, minor := 29, check := b!"procMount", pass := false, pod := { hostUsers := some (false), sc := some { runAsNonRoot := some (true), seccompType := some (b!"RuntimeDefault") }, initContainers := [{ name := b!"initcontainer1", image := b!"registry.k8s.io/pause", sc := some { allowPrivEsc := some (false), caps := some { add := [], drop := [b!"ALL"] }, procMount := some (b!"Unmasked") } }], containers := [{ name := b!"container1", image := b!"registry.k8s.io/pause", sc := some { allowPrivEsc := some (false), caps := some { add := [], drop := [b!"ALL"] } } }] } },
  { level := .restricted, minor := 32, check := b!"capabilities_baseline", pass := false, pod := { sc := some { runAsNonRoot := some (true), seccompType := some (b!"RuntimeDefault") }, initContainers := [{ name := b!"initcontainer1", image := b!"registry.k8s.io/pause", sc := some { allowPrivEsc := some (false), caps := some { add := [b!"NET_RAW"], drop := [b!"ALL"] } } }], containers := [{ name := b!"container1", image := b!"registry.k8s.io/pause", sc := some { allowPrivEsc := some (false), caps := some { add := [], drop := [b!"ALL"] } } }] } },
  { level := .restricted, minor := 25, check := b!"seccompProfile_restricted", pass := false, pod := { sc := some { runAsNonRoot := some (true) }, initContainers := [{ name := b!"initcontainer1", image := b!"registry.k8s.io/pause", sc := some { allowPrivEsc := some (false), caps := some { add := [], drop := [b!"ALL"] }, seccompType := some (b!"RuntimeDefault") } }], containers := [{ name := b!"container1", image := b!"registry.k8s.io/pause", sc := some { allowPrivEsc := some (false), caps := some { add := [], drop := [b!"ALL"] } } }] } },
  { level := .restricted, minor := 23, check := b!"runAsNonRoot", pass := false, pod := { sc := some { runAsNonRoot := some (false), seccompType := some (b!"RuntimeDefault") }, initContainers := [{ name := b!"initcontainer1", image := b!"registry.k8s.io/pause", sc := some { allowPrivEsc := some (false), caps := some { add := [], drop := [b!"ALL"] } } }], containers := [{ name := b!"container1", image := b!"registry.k8s.io/pause", sc := some { allowPrivEsc := some (false), caps := some { add := [], drop := [b!"ALL"] } } }] } },
  { level := .restricted, minor := 29, check := b!"runAsUser", pass := false, pod := { sc := some { runAsNonRoot := some (true), runAsUser := some (0), seccompType := some (b!"RuntimeDefault") }, initContainers := [{ name := b!"initcontainer1", image := b!"registry.k8s.io/pause", sc := some { allowPrivEsc := some (false), caps := some { add := [], drop := [b!"ALL"] } } }], containers := [{ name := b!"container1", image := b!"registry.k8s.io/pause", sc := some { allowPrivEsc := some (false), caps := some { add := [], drop := [b!"ALL"] } } }] } },
  { level := .restricted, minor := 32, check := b!"sysctls", pass := true, pod := { sc := some { runAsNonRoot := some (true), seccompType := some (b!"RuntimeDefault"), sysctls := [b!"net.ipv4.tcp_rmem", b!"net.ipv4.tcp_wmem"] }, initContainers := [{ name := b!"initcontainer1", image := b!"registry.k8s.io/pause", sc := some { allowPrivEsc := some (false), caps := some { add := [], drop := [b!"ALL"] } } }], containers := [{ name := b!"container1", image := b!"registry.k8s.io/pause", sc := some { allowPrivEsc := some (false), caps := some { add := [], drop := [b!"ALL"] } } }] } },
  { level := .restricted, minor := 25, check := b!"", pass := true, pod := { sc := some { runAsNonRoot := some (true), seccompType := some (b!"RuntimeDefault") }, initContainers := [{ name := b!"initcontainer1", image := b!"registry.k8s.io/pause", sc := some { allowPrivEsc := some (false), caps := some { add := [], drop := [b!"ALL"] } } }], containers := [{ name := b!"container1", image := b!"registry.k8s.io/pause", sc := some { allowPrivEsc := some (false), caps := some { add := [], drop := [b!"ALL"] } } }] } },
  { level := .restricted, minor := 32, check := b!"", pass := true, pod := { sc := some { runAsNonRoot := some (true), seccompType := some (b!"RuntimeDefault") }, initContainers := [{ name := b!"initcontainer1", image := b!"registry.k8s.io/pause", sc := some { allowPrivEsc := some (false), caps := some { add := [], drop := [b!"ALL"] } } }], containers := [{ name := b!"container1", image := b!"registry.k8s.io/pause", sc := some { allowPrivEsc := some (false), caps := some { add := [], drop := [b!"ALL"] } } }] } },
  { level := .restricted, minor := 31, check := b!"hostPathVolumes", pass := false, pod := { sc := some { runAsNonRoot := some (true), seccompType := some (b!"RuntimeDefault") }, initContainers := [{ name := b!"initcontainer1", image := b!"registry.k8s.io/pause", sc := some { allowPrivEsc := some (false), caps := some { add := [], drop := [b!"ALL"] } } }], containers := [{ name := b!"container1", image := b!"registry.k8s.io/pause", sc := some { allowPrivEsc := some (false), caps := some { add := [], drop := [b!"ALL"] } } }], volumes := [{ name := b!"volume-hostpath-a", sources := [.hostPath] }, { name := b!"volume-hostpath-b", sources := [.hostPath] }] } },
  { level := .restricted, minor := 22, check := b!"restrictedVolumes", pass := false, pod := { sc := some { runAsNonRoot := some (true), seccompType := some (b!"RuntimeDefault") }, initContainers := [{ name := b!"initcontainer1", image := b!"registry.k8s.io/pause", sc := some { allowPrivEsc := some (false), caps := some { add := [], drop := [b!"ALL"] } } }], containers := [{ name := b!"container1", image := b!"registry.k8s.io/pause", sc := some { allowPrivEsc := some (false), caps := some { add := [], drop := [b!"ALL"] } } }], volumes := [{ name := b!"volume1", sources := [.azureDisk] }] } },
  { level := .restricted, minor := 25, check := b!"restrictedVolumes", pass := false, pod := { sc := some { runAsNonRoot := some (true), seccompType := some (b!"RuntimeDefault") }, initContainers := [{ name := b!"initcontainer1", image := b!"registry.k8s.io/pause", sc := some { allowPrivEsc := some (false), caps := some { add := [], drop := [b!"ALL"] } } }], containers := [{ name := b!"container1", image := b!"registry.k8s.io/pause", sc := some { allowPrivEsc := some (false), caps := some { add := [], drop := [b!"ALL"] } } }], volumes := [{ name := b!"volume1", sources := [.cephfs] }] } },
  { level := .restricted, minor := 29, check := b!"restrictedVolumes", pass := false, pod := { sc := some { runAsNonRoot := some (true), seccompType := some (b!"RuntimeDefault") }, initContainers := [{ name := b!"initcontainer1", image := b!"registry.k8s.io/pause", sc := some { allowPrivEsc := some (false), caps := some { add := [], drop := [b!"ALL"] } } }], containers := [{ name := b!"container1", image := b!"registry.k8s.io/pause", sc := some { allowPrivEsc := some (false), caps := some { add := [], drop := [b!"ALL"] } } }], volumes := [{ name := b!"volume1", sources := [.fc] }] } },
  { level := .restricted, minor := 32, check := b!"restrictedVolumes", pass := false, pod := { sc := some { runAsNonRoot := some (true), seccompType := some (b!"RuntimeDefault") }, initContainers := [{ name := b!"initcontainer1", image := b!"registry.k8s.io/pause", sc := some { allowPrivEsc := some (false), caps := some { add := [], drop := [b!"ALL"] } } }], containers := [{ name := b!"container1", image := b!"registry.k8s.io/pause", sc := some { allowPrivEsc := some (false), caps := some { add := [], drop := [b!"ALL"] } } }], volumes := [{ name := b!"volume1", sources := [.flocker] }] } },
  { level := .restricted, minor := 23, check := b!"restrictedVolumes", pass := false, pod := { sc := some { runAsNonRoot := some (true), seccompType := some (b!"RuntimeDefault") }, initContainers := [{ name := b!"initcontainer1", image := b!"registry.k8s.io/pause", sc := some { allowPrivEsc := some (false), caps := some { add := [], drop := [b!"ALL"] } } }], containers := [{ name := b!"container1", image := b!"registry.k8s.io/pause", sc := some { allowPrivEsc := some (false), caps := some { add := [], drop := [b!"ALL"] } } }], volumes := [{ name := b!"volume1", sources := [.glusterfs] }] } },
  { level := .restricted, minor := 27, check := b!"restrictedVolumes", pass := false, pod := { sc := some { runAsNonRoot := some (true), seccompType := some (b!"RuntimeDefault") }, initContainers := [{ name := b!"initcontainer1", image := b!"registry.k8s.io/pause", sc := some { allowPrivEsc := some (false), caps := some { add := [], drop := [b!"ALL"] } } }], containers := [{ name := b!"container1", image := b!"registry.k8s.io/pause", sc := some { allowPrivEsc := some (false), caps := some { add := [], drop := [b!"ALL"] } } }], volumes := [{ name := b!"volume1", sources := [.iscsi] }] } },
  { level := .restricted, minor := 31, check := b!"restrictedVolumes", pass := false, pod := { sc := some { runAsNonRoot := some (true), seccompType := some (b!"RuntimeDefault") }, initContainers := [{ name := b!"initcontainer1", image := b!"registry.k8s.io/pause", sc := some { allowPrivEsc := some (false), caps := some { add := [], drop := [b!"ALL"] } } }], containers := [{ name := b!"container1", image := b!"registry.k8s.io/pause", sc := some { allowPrivEsc := some (false), caps := some { add := [], drop := [b!"ALL"] } } }], volumes := [{ name := b!"volume1", sources := [.portworxVolume] }] } },
  { level := .restricted, minor := 22, check := b!"restrictedVolumes", pass := false, pod := { sc := some { runAsNonRoot := some (true), seccompType := some (b!"RuntimeDefault") }, initContainers := [{ name := b!"initcontainer1", image := b!"registry.k8s.io/pause", sc := some { allowPrivEsc := some (false), caps := some { add := [], drop := [b!"ALL"] } } }], containers := [{ name := b!"container1", image := b!"registry.k8s.io/pause", sc := some { allowPrivEsc := some (false), caps := some { add := [], drop := [b!"ALL"] } } }], volumes := [{ name := b!"volume1", sources := [.scaleIO] }] } },
  { level := .restricted, minor := 25, check := b!"restrictedVolumes", pass := false, pod := { sc := some { runAsNonRoot := some (true), seccompType := some (b!"RuntimeDefault") }, initContainers := [{ name := b!"initcontainer1", image := b!"registry.k8s.io/pause", sc := some { allowPrivEsc := some (false), caps := some { add := [], drop := [b!"ALL"] } } }], containers := [{ name := b!"container1", image := b!"registry.k8s.io/pause", sc := some { allowPrivEsc := some (false), caps := some { add := [], drop := [b!"ALL"] } } }], volumes := [{ name := b!"volume1", sources := [.vsphereVolume] }] } },
  { level := .restricted, minor := 31, check := b!"seccompProfile_restricted", pass := false, pod := { sc := some { runAsNonRoot := some (true), seccompType := some (b!"Unconfined") }, initContainers := [{ name := b!"initcontainer1", image := b!"registry.k8s.io/pause", sc := some { allowPrivEsc := some (false), caps := some { add := [], drop := [b!"ALL"] } } }], containers := [{ name := b!"container1", image := b!"registry.k8s.io/pause", sc := some { allowPrivEsc := some (false), caps := some { add := [], drop := [b!"ALL"] } } }] } },
  { level := .restricted, minor := 32, check := b!"seLinuxOptions", pass := true, pod := { sc := some { runAsNonRoot := some (true), seccompType := some (b!"RuntimeDefault") }, initContainers := [{ name := b!"initcontainer1", image := b!"registry.k8s.io/pause", sc := some { allowPrivEsc := some (false), caps := some { add := [], drop := [b!"ALL"] }, seLinux := some ({ type := b!"", user := b!"", role := b!"" }) } }], containers := [{ name := b!"container1", image := b!"registry.k8s.io/pause", sc := some { allowPrivEsc := some (false), caps := some { add := [], drop := [b!"ALL"] } } }] } },
  { level := .restricted, minor := 23, check := b!"allowPrivilegeEscalation", pass := false, pod := { sc := some { runAsNonRoot := some (true), seccompType := some (b!"RuntimeDefault") }, initContainers := [{ name := b!"initcontainer1", image := b!"registry.k8s.io/pause", sc := some { allowPrivEsc := some (true), caps := some { add := [], drop := [b!"ALL"] } } }], containers := [{ name := b!"container1", image := b!"registry.k8s.io/pause", sc := some { allowPrivEsc := some (false), caps := some { add := [], drop := [b!"ALL"] } } }] } },
  { level := .restricted, minor := 27, check := b!"hostNamespaces", pass := false, pod := { hostNetwork := true, sc := some { runAsNonRoot := some (true), seccompType := some (b!"RuntimeDefault") }, initContainers := [{ name := b!"initcontainer1", image := b!"registry.k8s.io/pause", sc := some { allowPrivEsc := some (false), caps := some { add := [], drop := [b!"ALL"] } } }], containers := [{ name := b!"container1", image := b!"registry.k8s.io/pause", sc := some { allowPrivEsc := some (false), caps := some { add := [], drop := [b!"ALL"] } } }] } },
  { level := .restricted, minor := 31, check := b!"seLinuxOptions", pass := false, pod := { sc := some { runAsNonRoot := some (true), seccompType := some (b!"RuntimeDefault"), seLinux := some ({ type := b!"", user := b!"somevalue", role := b!"" }) }, initContainers := [{ name := b!"initcontainer1", image := b!"registry.k8s.io/pause", sc := some { allowPrivEsc := some (false), caps := some { add := [], drop := [b!"ALL"] }, seLinux := some ({ type := b!"", user := b!"", role := b!"" }) } }], containers := [{ name := b!"container1", image := b!"registry.k8s.io/pause", sc := some { allowPrivEsc := some (false), caps := some { add := [], drop := [b!"ALL"] }, seLinux := some ({ type := b!"", user := b!"", role := b!"" }) } }] } },
  { level := .restricted, minor := 22, check := b!"seLinuxOptions", pass := false, pod := { sc := some { runAsNonRoot := some (true), seccompType := some (b!"RuntimeDefault"), seLinux := some ({ type := b!"", user := b!"", role := b!"" }) }, initContainers := [{ name := b!"initcontainer1", image := b!"registry.k8s.io/pause", sc := some { allowPrivEsc := some (false), caps := some { add := [], drop := [b!"ALL"] }, seLinux := some ({ type := b!"somevalue", user := b!"", role := b!"" }) } }], containers := [{ name := b!"container1", image := b!"registry.k8s.io/pause", sc := some { allowPrivEsc := some (false), caps := some { add := [], drop := [b!"ALL"] }, seLinux := some ({ type := b!"", user := b!"", role := b!"" }) } }] } },
  { level := .restricted, minor := 25, check := b!"seLinuxOptions", pass := false, pod := { sc := some { runAsNonRoot := some (true), seccompType := some (b!"RuntimeDefault"), seLinux := some ({ type := b!"", user := b!"", role := b!"" }) }, initContainers := [{ name := b!"initcontainer1", image := b!"registry.k8s.io/pause", sc := some { allowPrivEsc := some (false), caps := some { add := [], drop := [b!"ALL"] }, seLinux := some ({ type := b!"", user := b!"", role := b!"" }) } }], containers := [{ name := b!"container1", image := b!"registry.k8s.io/pause", sc := some { allowPrivEsc := some (false), caps := some { add := [], drop := [b!"ALL"] }, seLinux := some ({ type := b!"somevalue", user := b!"", role := b!"" }) } }] } },
  { level := .restricted, minor := 29, check := b!"windowsHostProcess", pass := false, pod := { hostNetwork := true, sc := some { runAsNonRoot := some (true), seccompType := some (b!"RuntimeDefault"), hostProcess := some (some true) }, initContainers := [{ name := b!"initcontainer1", image := b!"registry.k8s.io/pause", sc := some { allowPrivEsc := some (false), caps := some { add := [], drop := [b!"ALL"] }, hostProcess := some none } }], containers := [{ name := b!"container1", image := b!"registry.k8s.io/pause", sc := some { allowPrivEsc := some (false), caps := some { add := [], drop := [b!"ALL"] }, hostProcess := some none } }] } },
  { level := .restricted, minor := 32, check := b!"capabilities_restricted", pass := false, pod := { sc := some { runAsNonRoot := some (true), seccompType := some (b!"RuntimeDefault") }, initContainers := [{ name := b!"initcontainer1", image := b!"registry.k8s.io/pause", sc := some { allowPrivEsc := some (false), caps := some { add := [], drop := [b!"SYS_TIME", b!"SYS_MODULE", b!"SYS_RAWIO", b!"SYS_PACCT", b!"SYS_ADMIN", b!"SYS_NICE", b!"SYS_RESOURCE", b!"SYS_TIME", b!"SYS_TTY_CONFIG", b!"MKNOD", b!"AUDIT_WRITE", b!"AUDIT_CONTROL", b!"MAC_OVERRIDE", b!"MAC_ADMIN", b!"NET_ADMIN", b!"SYSLOG", b!"CHOWN", b!"NET_RAW", b!"DAC_OVERRIDE", b!"FOWNER", b!"DAC_READ_SEARCH", b!"FSETID", b!"KILL", b!"SETGID", b!"SETUID", b!"LINUX_IMMUTABLE", b!"NET_BIND_SERVICE", b!"NET_BROADCAST", b!"IPC_LOCK", b!"IPC_OWNER", b!"SYS_CHROOT", b!"SYS_PTRACE", b!"SYS_BOOT", b!"LEASE", b!"SETFCAP", b!"WAKE_ALARM", b!"BLOCK_SUSPEND"] } } }], containers := [{ name := b!"container1", image := b!"registry.k8s.io/pause", sc := some { allowPrivEsc := some (false), caps := some { add := [], drop := [b!"SYS_TIME", b!"SYS_MODULE", b!"SYS_RAWIO", b!"SYS_PACCT", b!"SYS_ADMIN", b!"SYS_NICE", b!"SYS_RESOURCE", b!"SYS_TIME", b!"SYS_TTY_CONFIG", b!"MKNOD", b!"AUDIT_WRITE", b!"AUDIT_CONTROL", b!"MAC_OVERRIDE", b!"MAC_ADMIN", b!"NET_ADMIN", b!"SYSLOG", b!"CHOWN", b!"NET_RAW", b!"DAC_OVERRIDE", b!"FOWNER", b!"DAC_READ_SEARCH", b!"FSETID", b!"KILL", b!"SETGID", b!"SETUID", b!"LINUX_IMMUTABLE", b!"NET_BIND_SERVICE", b!"NET_BROADCAST", b!"IPC_LOCK", b!"IPC_OWNER", b!"SYS_CHROOT", b!"SYS_PTRACE", b!"SYS_BOOT", b!"LEASE", b!"SETFCAP", b!"WAKE_ALARM", b!"BLOCK_SUSPEND"] } } }] } },
  { level := .restricted, minor := 19, check := b!"runAsNonRoot", pass := false, pod := { sc := some { runAsNonRoot := some (true), seccompType := some (b!"RuntimeDefault") }, initContainers := [{ name := b!"initcontainer1", image := b!"registry.k8s.io/pause", sc := some { allowPrivEsc := some (false) } }], containers := [{ name := b!"container1", image := b!"registry.k8s.io/pause", sc := some { allowPrivEsc := some (false), runAsNonRoot := some (false) } }] } },
  { level := .restricted, minor := 19, check := b!"runAsNonRoot", pass := false, pod := { sc := some { seccompType := some (b!"RuntimeDefault") }, initContainers := [{ name := b!"initcontainer1", image := b!"registry.k8s.io/pause", sc := some { allowPrivEsc := some (false) } }], containers := [{ name := b!"container1", image := b!"registry.k8s.io/pause", sc := some { allowPrivEsc := some (false) } }] } },
  { level := .restricted, minor := 19, check := b!"restrictedVolumes", pass := false, pod := { sc := some { runAsNonRoot := some (true), seccompType := some (b!"RuntimeDefault") }, initContainers := [{ name := b!"initcontainer1", image := b!"registry.k8s.io/pause", sc := some { allowPrivEsc := some (false) } }], containers := [{ name := b!"container1", image := b!"registry.k8s.io/pause", sc := some { allowPrivEsc := some (false) } }], volumes := [{ name := b!"volume1", sources := [.cinder] }] } },
  { level := .restricted, minor := 19, check := b!"seccompProfile_baseline", pass := false, pod := { sc := some { runAsNonRoot := some (true), seccompType := some (b!"Unconfined") }, initContainers := [{ name := b!"initcontainer1", image := b!"registry.k8s.io/pause", sc := some { allowPrivEsc := some (false) } }], containers := [{ name := b!"container1", image := b!"registry.k8s.io/pause", sc := some { allowPrivEsc := some (false) } }] } },
  { level := .restricted, minor := 8, check := b!"restrictedVolumes", pass := false, pod := { sc := some { runAsNonRoot := some (true) }, initContainers := [{ name := b!"initcontainer1", image := b!"registry.k8s.io/pause", sc := some { allowPrivEsc := some (false) } }], containers := [{ name := b!"container1", image := b!"registry.k8s.io/pause", sc := some { allowPrivEsc := some (false) } }], volumes := [{ name := b!"volume1", sources := [.fc] }] } },
  { level := .restricted, minor := 8, check := b!"seLinuxOptions", pass := true, pod := { sc := some { runAsNonRoot := some (true) }, initContainers := [{ name := b!"initcontainer1", image := b!"registry.k8s.io/pause", sc := some { allowPrivEsc := some (false), seLinux := some ({ type := b!"", user := b!"", role := b!"" }) } }], containers := [{ name := b!"container1", image := b!"registry.k8s.io/pause", sc := some { allowPrivEsc := some (false) } }] } },
  { level := .restricted, minor := 8, check := b!"seLinuxOptions", pass := false, pod := { sc := some { runAsNonRoot := some (true), seLinux := some ({ type := b!"", user := b!"", role := b!"somevalue" }) }, initContainers := [{ name := b!"initcontainer1", image := b!"registry.k8s.io/pause", sc := some { allowPrivEsc := some (false), seLinux := some ({ type := b!"", user := b!"", role := b!"" }) } }], containers := [{ name := b!"container1", image := b!"registry.k8s.io/pause", sc := some { allowPrivEsc := some (false), seLinux := some ({ type := b!"", user := b!"", role := b!"" }) } }] } },
  { level := .baseline, minor := 29, check := b!"capabilities_baseline", pass := true, pod := { sc := some {  }, initContainers := [{ name := b!"initcontainer1", image := b!"registry.k8s.io/pause", sc := some { caps := some { add := [b!"AUDIT_WRITE", b!"CHOWN", b!"DAC_OVERRIDE", b!"FOWNER", b!"FSETID", b!"KILL", b!"MKNOD", b!"NET_BIND_SERVICE", b!"SETFCAP", b!"SETGID", b!"SETPCAP", b!"SETUID", b!"SYS_CHROOT"], drop := [] } } }], containers := [{ name := b!"container1", image := b!"registry.k8s.io/pause", sc := some { caps := some { add := [b!"AUDIT_WRITE", b!"CHOWN", b!"DAC_OVERRIDE", b!"FOWNER", b!"FSETID", b!"KILL", b!"MKNOD", b!"NET_BIND_SERVICE", b!"SETFCAP", b!"SETGID", b!"SETPCAP", b!"SETUID", b!"SYS_CHROOT"], drop := [] } } }] } },
  { level := .baseline, minor := 32, check := b!"capabilities_baseline", pass := false, pod := { sc := some {  }, initContainers := [{ name := b!"initcontainer1", image := b!"registry.k8s.io/pause", sc := some { caps := some { add := [], drop := [] } } }], containers := [{ name := b!"container1", image := b!"registry.k8s.io/pause", sc := some { caps := some { add := [b!"NET_RAW"], drop := [] } } }] } },
  { level := .restricted, minor := 22, check := b!"privileged", pass := false, pod := { sc := some { runAsNonRoot := some (true), seccompType := some (b!"RuntimeDefault") }, initContainers := [{ name := b!"initcontainer1", image := b!"registry.k8s.io/pause", sc := some { allowPrivEsc := some (false), caps := some { add := [], drop := [b!"ALL"] } } }], containers := [{ name := b!"container1", image := b!"registry.k8s.io/pause", sc := some { privileged := some (true), caps := some { add := [], drop := [b!"ALL"] } } }] } },
  { level := .baseline, minor := 27, check := b!"privileged", pass := true, pod := { sc := some {  }, initContainers := [{ name := b!"initcontainer1", image := b!"registry.k8s.io/pause", sc := some { privileged := some (false) } }], containers := [{ name := b!"container1", image := b!"registry.k8s.io/pause", sc := some { privileged := some (false) } }] } },
  { level := .baseline, minor := 31, check := b!"procMount", pass := false, pod := { hostUsers := some (false), sc := some {  }, initContainers := [{ name := b!"initcontainer1", image := b!"registry.k8s.io/pause", sc := some {  } }], containers := [{ name := b!"container1", image := b!"registry.k8s.io/pause", sc := some { procMount := some (b!"Unmasked") } }] } },
  { level := .baseline, minor := 27, check := b!"procMount", pass := false, pod := { hostUsers := some (false), sc := some {  }, initContainers := [{ name := b!"initcontainer1", image := b!"registry.k8s.io/pause", sc := some { procMount := some (b!"Unmasked") } }], containers := [{ name := b!"container1", image := b!"registry.k8s.io/pause", sc := some {  } }] } },
  { level := .baseline, minor := 29, check := b!"seccompProfile_baseline", pass := false, pod := { sc := some { seccompType := some (b!"Unconfined") }, initContainers := [{ name := b!"initcontainer1", image := b!"registry.k8s.io/pause", sc := some {  } }], containers := [{ name := b!"container1", image := b!"registry.k8s.io/pause", sc := some {  } }] } },
  { level := .baseline, minor := 31, check := b!"privileged", pass := false, pod := { sc := some {  }, initContainers := [{ name := b!"initcontainer1", image := b!"registry.k8s.io/pause", sc := some { privileged := some (true) } }], containers := [{ name := b!"container1", image := b!"registry.k8s.io/pause", sc := some {  } }] } },
  { level := .baseline, minor := 19, check := b!"seLinuxOptions", pass := false, pod := { sc := some { seLinux := some ({ type := b!"", user := b!"", role := b!"somevalue" }) }, initContainers := [{ name := b!"initcontainer1", image := b!"registry.k8s.io/pause", sc := some { seLinux := some ({ type := b!"", user := b!"", role := b!"" }) } }], containers := [{ name := b!"container1", image := b!"registry.k8s.io/pause", sc := some { seLinux := some ({ type := b!"", user := b!"", role := b!"" }) } }] } },
  { level := .baseline, minor := 19, check := b!"seLinuxOptions", pass := true, pod := { sc := some { seLinux := some ({ type := b!"container_t", user := b!"", role := b!"" }) }, initContainers := [{ name := b!"initcontainer1", image := b!"registry.k8s.io/pause", sc := some { seLinux := some ({ type := b!"container_kvm_t", user := b!"", role := b!"" }) } }], containers := [{ name := b!"container1", image := b!"registry.k8s.io/pause", sc := some { seLinux := some ({ type := b!"container_init_t", user := b!"", role := b!"" }) } }] } },
  { level := .baseline, minor := 0, check := b!"privileged", pass := false, pod := { sc := some {  }, initContainers := [{ name := b!"initcontainer1", image := b!"registry.k8s.io/pause", sc := some {  } }], containers := [{ name := b!"container1", image := b!"registry.k8s.io/pause", sc := some { privileged := some (true) } }] } },
  { level := .baseline, minor := 27, check := b!"windowsHostProcess", pass := false, pod := { hostNetwork := true, sc := some { hostProcess := some none }, initContainers := [{ name := b!"initcontainer1", image := b!"registry.k8s.io/pause", sc := some { hostProcess := some (some true) } }], containers := [{ name := b!"container1", image := b!"registry.k8s.io/pause", sc := some { hostProcess := some (some true) } }] } }
]

/-- every fixture of this chunk agrees with the evaluator: kernel evaluation of the whole (finite) table -/
theorem chunk6_ok : chunk6.all fixtureOk = true := by decide +kernel

end PSA.Fixtures
