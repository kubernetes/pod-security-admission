import Psa.FixtureCheck
/-! GENERATED by the harness (FIXTURES-GEN) from package test of /repo — do not edit. Chunk 1 of 16 of the distinct
    conformance fixtures (level, revision signature of the version, control, pass/fail, pod). -/
namespace PSA.Fixtures
open PSA

def chunk1 : List Fixture := [
  { level := .baseline, minor := 19, check := b!"appArmorProfile", pass := true, pod := { annotations := [(b!"container.apparmor.security.beta.kubernetes.io/container1", b!"localhost/foo")], initContainers := [{ name := b!"initcontainer1", image := b!"registry.k8s.io/pause" }], containers := [{ name := b!"container1", image := b!"registry.k8s.io/pause" }] } },
  { level := .baseline, minor := 19, check := b!"appArmorProfile", pass := false, pod := { annotations := [(b!"container.apparmor.security.beta.kubernetes.io/container1", b!"unconfined")], initContainers := [{ name := b!"initcontainer1", image := b!"registry.k8s.io/pause" }], containers := [{ name := b!"container1", image := b!"registry.k8s.io/pause" }] } },
  { level := .baseline, minor := 19, check := b!"appArmorProfile", pass := false, pod := { annotations := [(b!"container.apparmor.security.beta.kubernetes.io/initcontainer1", b!"unconfined")], initContainers := [{ name := b!"initcontainer1", image := b!"registry.k8s.io/pause" }], containers := [{ name := b!"container1", image := b!"registry.k8s.io/pause" }] } },
  { level := .restricted, minor := 0, check := b!"seccompProfile_baseline", pass := true, pod := { annotations := [(b!"container.seccomp.security.alpha.kubernetes.io/container1", b!"localhost/testing"), (b!"seccomp.security.alpha.kubernetes.io/pod", b!"runtime/default")], sc := some { runAsNonRoot := some (true) }, initContainers := [{ name := b!"initcontainer1", image := b!"registry.k8s.io/pause" }], containers := [{ name := b!"container1", image := b!"registry.k8s.io/pause" }] } },
  { level := .baseline, minor := 32, check := b!"hostPorts", pass := true, pod := { initContainers := [{ name := b!"initcontainer1", image := b!"registry.k8s.io/pause", hostPorts := [0] }], containers := [{ name := b!"container1", image := b!"registry.k8s.io/pause", hostPorts := [0] }] } },
  { level := .baseline, minor := 32, check := b!"hostPorts", pass := false, pod := { initContainers := [{ name := b!"initcontainer1", image := b!"registry.k8s.io/pause", hostPorts := [12346, 0] }], containers := [{ name := b!"container1", image := b!"registry.k8s.io/pause", hostPorts := [12345, 0] }] } },
  { level := .baseline, minor := 32, check := b!"hostPorts", pass := false, pod := { initContainers := [{ name := b!"initcontainer1", image := b!"registry.k8s.io/pause" }], containers := [{ name := b!"container1", image := b!"registry.k8s.io/pause", hostPorts := [12345] }] } },
  { level := .baseline, minor := 32, check := b!"hostPorts", pass := false, pod := { initContainers := [{ name := b!"initcontainer1", image := b!"registry.k8s.io/pause", hostPorts := [12346] }], containers := [{ name := b!"container1", image := b!"registry.k8s.io/pause" }] } },
  { level := .baseline, minor := 32, check := b!"hostPathVolumes", pass := false, pod := { initContainers := [{ name := b!"initcontainer1", image := b!"registry.k8s.io/pause" }], containers := [{ name := b!"container1", image := b!"registry.k8s.io/pause" }], volumes := [{ name := b!"volume-emptydir", sources := [.emptyDir] }, { name := b!"volume-hostpath", sources := [.hostPath] }] } },
  { level := .baseline, minor := 29, check := b!"sysctls", pass := false, pod := { sc := some { sysctls := [b!"othersysctl"] }, initContainers := [{ name := b!"initcontainer1", image := b!"registry.k8s.io/pause" }], containers := [{ name := b!"container1", image := b!"registry.k8s.io/pause" }] } },
  { level := .restricted, minor := 0, check := b!"restrictedVolumes", pass := false, pod := { sc := some { runAsNonRoot := some (true) }, initContainers := [{ name := b!"initcontainer1", image := b!"registry.k8s.io/pause" }], containers := [{ name := b!"container1", image := b!"registry.k8s.io/pause" }], volumes := [{ name := b!"volume1", sources := [.awsElasticBlockStore] }] } },
  { level := .restricted, minor := 0, check := b!"restrictedVolumes", pass := false, pod := { sc := some { runAsNonRoot := some (true) }, initContainers := [{ name := b!"initcontainer1", image := b!"registry.k8s.io/pause" }], containers := [{ name := b!"container1", image := b!"registry.k8s.io/pause" }], volumes := [{ name := b!"volume1", sources := [.rbd] }] } },
  { level := .baseline, minor := 29, check := b!"hostNamespaces", pass := false, pod := { hostPID := true, initContainers := [{ name := b!"initcontainer1", image := b!"registry.k8s.io/pause" }], containers := [{ name := b!"container1", image := b!"registry.k8s.io/pause" }] } },
  { level := .baseline, minor := 32, check := b!"hostNamespaces", pass := false, pod := { hostIPC := true, initContainers := [{ name := b!"initcontainer1", image := b!"registry.k8s.io/pause" }], containers := [{ name := b!"container1", image := b!"registry.k8s.io/pause" }] } },
  { level := .restricted, minor := 31, check := b!"capabilities_baseline", pass := false, pod := { sc := some { runAsNonRoot := some (true), seccompType := some (b!"RuntimeDefault") }, initContainers := [{ name := b!"initcontainer1", image := b!"registry.k8s.io/pause", sc := some { allowPrivEsc := some (false), caps := some { add := [], drop := [b!"ALL"] } } }], containers := [{ name := b!"container1", image := b!"registry.k8s.io/pause", sc := some { allowPrivEsc := some (false), caps := some { add := [b!"CAP_CHOWN"], drop := [b!"ALL"] } } }] } },
  { level := .restricted, minor := 31, check := b!"capabilities_baseline", pass := false, pod := { sc := some { runAsNonRoot := some (true), seccompType := some (b!"RuntimeDefault") }, initContainers := [{ name := b!"initcontainer1", image := b!"registry.k8s.io/pause", sc := some { allowPrivEsc := some (false), caps := some { add := [], drop := [b!"ALL"] } } }], containers := [{ name := b!"container1", image := b!"registry.k8s.io/pause", sc := some { allowPrivEsc := some (false), caps := some { add := [b!"NET_RAW"], drop := [b!"ALL"] } } }] } },
  { level := .restricted, minor := 27, check := b!"privileged", pass := true, pod := { sc := some { runAsNonRoot := some (true), seccompType := some (b!"RuntimeDefault") }, initContainers := [{ name := b!"initcontainer1", image := b!"registry.k8s.io/pause", sc := some { privileged := some (false), allowPrivEsc := some (false), caps := some { add := [], drop := [b!"ALL"] } } }], containers := [{ name := b!"container1", image := b!"registry.k8s.io/pause", sc := some { privileged := some (false), allowPrivEsc := some (false), caps := some { add := [], drop := [b!"ALL"] } } }] } },
  { level := .restricted, minor := 31, check := b!"procMount", pass := false, pod := { hostUsers := some (false), sc := some { runAsNonRoot := some (true), seccompType := some (b!"RuntimeDefault") }, initContainers := [{ name := b!"initcontainer1", image := b!"registry.k8s.io/pause", sc := some { allowPrivEsc := some (false), caps := some { add := [], drop := [b!"ALL"] } } }], containers := [{ name := b!"container1", image := b!"registry.k8s.io/pause", sc := some { allowPrivEsc := some (false), caps := some { add := [], drop := [b!"ALL"] }, procMount := some (b!"Unmasked") } }] } },
  { level := .restricted, minor := 25, check := b!"runAsUser", pass := true, pod := { sc := some { runAsNonRoot := some (true), runAsUser := some (1000), seccompType := some (b!"RuntimeDefault") }, initContainers := [{ name := b!"initcontainer1", image := b!"registry.k8s.io/pause", sc := some { allowPrivEsc := some (false), caps := some { add := [], drop := [b!"ALL"] }, runAsUser := some (1000) } }], containers := [{ name := b!"container1", image := b!"registry.k8s.io/pause", sc := some { allowPrivEsc := some (false), caps := some { add := [], drop := [b!"ALL"] }, runAsUser := some (1000) } }] } },
  { level := .restricted, minor := 29, check := b!"seccompProfile_restricted", pass := false, pod := { sc := some { runAsNonRoot := some (true) }, initContainers := [{ name := b!"initcontainer1", image := b!"registry.k8s.io/pause", sc := some { allowPrivEsc := some (false), caps := some { add := [], drop := [b!"ALL"] }, seccompType := some (b!"Unconfined") } }], containers := [{ name := b!"container1", image := b!"registry.k8s.io/pause", sc := some { allowPrivEsc := some (false), caps := some { add := [], drop := [b!"ALL"] }, seccompType := some (b!"RuntimeDefault") } }] } },
  { level := .restricted, minor := 32, check := b!"seccompProfile_baseline", pass := false, pod := { sc := some { runAsNonRoot := some (true), seccompType := some (b!"RuntimeDefault") }, initContainers := [{ name := b!"initcontainer1", image := b!"registry.k8s.io/pause", sc := some { allowPrivEsc := some (false), caps := some { add := [], drop := [b!"ALL"] } } }], containers := [{ name := b!"container1", image := b!"registry.k8s.io/pause", sc := some { allowPrivEsc := some (false), caps := some { add := [], drop := [b!"ALL"] }, seccompType := some (b!"Unconfined") } }] } },
  { level := .restricted, minor := 23, check := b!"capabilities_baseline", pass := false, pod := { sc := some { runAsNonRoot := some (true), seccompType := some (b!"RuntimeDefault") }, initContainers := [{ name := b!"initcontainer1", image := b!"registry.k8s.io/pause", sc := some { allowPrivEsc := some (false), caps := some { add := [b!"NET_RAW"], drop := [b!"ALL"] } } }], containers := [{ name := b!"container1", image := b!"registry.k8s.io/pause", sc := some { allowPrivEsc := some (false), caps := some { add := [], drop := [b!"ALL"] } } }] } },
  { level := .restricted, minor := 29, check := b!"runAsUser", pass := false, pod := { sc := some { runAsNonRoot := some (true), seccompType := some (b!"RuntimeDefault") }, initContainers := [{ name := b!"initcontainer1", image := b!"registry.k8s.io/pause", sc := some { allowPrivEsc := some (false), caps := some { add := [], drop := [b!"ALL"] }, runAsUser := some (0) } }], containers := [{ name := b!"container1", image := b!"registry.k8s.io/pause", sc := some { allowPrivEsc := some (false), caps := some { add := [], drop := [b!"ALL"] } } }] } },
  { level := .restricted, minor := 32, check := b!"seccompProfile_baseline", pass := false, pod := { sc := some { runAsNonRoot := some (true), seccompType := some (b!"RuntimeDefault") }, initContainers := [{ name := b!"initcontainer1", image := b!"registry.k8s.io/pause", sc := some { allowPrivEsc := some (false), caps := some { add := [], drop := [b!"ALL"] }, seccompType := some (b!"Unconfined") } }], containers := [{ name := b!"container1", image := b!"registry.k8s.io/pause", sc := some { allowPrivEsc := some (false), caps := some { add := [], drop := [b!"ALL"] } } }] } },
  { level := .restricted, minor := 31, check := b!"runAsNonRoot", pass := false, pod := { sc := some { seccompType := some (b!"RuntimeDefault") }, initContainers := [{ name := b!"initcontainer1", image := b!"registry.k8s.io/pause", sc := some { allowPrivEsc := some (false), caps := some { add := [], drop := [b!"ALL"] } } }], containers := [{ name := b!"container1", image := b!"registry.k8s.io/pause", sc := some { allowPrivEsc := some (false), caps := some { add := [], drop := [b!"ALL"] } } }] } },
  { level := .restricted, minor := 31, check := b!"sysctls", pass := true, pod := { sc := some { runAsNonRoot := some (true), seccompType := some (b!"RuntimeDefault"), sysctls := [b!"kernel.shm_rmid_forced", b!"net.ipv4.ip_local_port_range", b!"net.ipv4.tcp_syncookies", b!"net.ipv4.ping_group_range", b!"net.ipv4.ip_unprivileged_port_start", b!"net.ipv4.ip_local_reserved_ports", b!"net.ipv4.tcp_keepalive_time", b!"net.ipv4.tcp_fin_timeout", b!"net.ipv4.tcp_keepalive_intvl", b!"net.ipv4.tcp_keepalive_probes"] }, initContainers := [{ name := b!"initcontainer1", image := b!"registry.k8s.io/pause", sc := some { allowPrivEsc := some (false), caps := some { add := [], drop := [b!"ALL"] } } }], containers := [{ name := b!"container1", image := b!"registry.k8s.io/pause", sc := some { allowPrivEsc := some (false), caps := some { add := [], drop := [b!"ALL"] } } }] } },
  { level := .restricted, minor := 22, check := b!"sysctls", pass := true, pod := { sc := some { runAsNonRoot := some (true), seccompType := some (b!"RuntimeDefault") }, initContainers := [{ name := b!"initcontainer1", image := b!"registry.k8s.io/pause", sc := some { allowPrivEsc := some (false), caps := some { add := [], drop := [b!"ALL"] } } }], containers := [{ name := b!"container1", image := b!"registry.k8s.io/pause", sc := some { allowPrivEsc := some (false), caps := some { add := [], drop := [b!"ALL"] } } }] } },
  { level := .restricted, minor := 29, check := b!"sysctls", pass := true, pod := { sc := some { runAsNonRoot := some (true), seccompType := some (b!"RuntimeDefault") }, initContainers := [{ name := b!"initcontainer1", image := b!"registry.k8s.io/pause", sc := some { allowPrivEsc := some (false), caps := some { add := [], drop := [b!"ALL"] } } }], containers := [{ name := b!"container1", image := b!"registry.k8s.io/pause", sc := some { allowPrivEsc := some (false), caps := some { add := [], drop := [b!"ALL"] } } }] } },
  { level := .restricted, minor := 22, check := b!"hostPathVolumes", pass := false, pod := { sc := some { runAsNonRoot := some (true), seccompType := some (b!"RuntimeDefault") }, initContainers := [{ name := b!"initcontainer1", image := b!"registry.k8s.io/pause", sc := some { allowPrivEsc := some (false), caps := some { add := [], drop := [b!"ALL"] } } }], containers := [{ name := b!"container1", image := b!"registry.k8s.io/pause", sc := some { allowPrivEsc := some (false), caps := some { add := [], drop := [b!"ALL"] } } }], volumes := [{ name := b!"volume-hostpath-a", sources := [.hostPath] }, { name := b!"volume-hostpath-b", sources := [.hostPath] }] } },
  { level := .restricted, minor := 25, check := b!"restrictedVolumes", pass := false, pod := { sc := some { runAsNonRoot := some (true), seccompType := some (b!"RuntimeDefault") }, initContainers := [{ name := b!"initcontainer1", image := b!"registry.k8s.io/pause", sc := some { allowPrivEsc := some (false), caps := some { add := [], drop := [b!"ALL"] } } }], containers := [{ name := b!"container1", image := b!"registry.k8s.io/pause", sc := some { allowPrivEsc := some (false), caps := some { add := [], drop := [b!"ALL"] } } }], volumes := [{ name := b!"volume1", sources := [.awsElasticBlockStore] }] } },
  { level := .restricted, minor := 29, check := b!"restrictedVolumes", pass := false, pod := { sc := some { runAsNonRoot := some (true), seccompType := some (b!"RuntimeDefault") }, initContainers := [{ name := b!"initcontainer1", image := b!"registry.k8s.io/pause", sc := some { allowPrivEsc := some (false), caps := some { add := [], drop := [b!"ALL"] } } }], containers := [{ name := b!"container1", image := b!"registry.k8s.io/pause", sc := some { allowPrivEsc := some (false), caps := some { add := [], drop := [b!"ALL"] } } }], volumes := [{ name := b!"volume1", sources := [.azureFile] }] } },
  { level := .restricted, minor := 32, check := b!"restrictedVolumes", pass := false, pod := { sc := some { runAsNonRoot := some (true), seccompType := some (b!"RuntimeDefault") }, initContainers := [{ name := b!"initcontainer1", image := b!"registry.k8s.io/pause", sc := some { allowPrivEsc := some (false), caps := some { add := [], drop := [b!"ALL"] } } }], containers := [{ name := b!"container1", image := b!"registry.k8s.io/pause", sc := some { allowPrivEsc := some (false), caps := some { add := [], drop := [b!"ALL"] } } }], volumes := [{ name := b!"volume1", sources := [.cinder] }] } },
  { level := .restricted, minor := 23, check := b!"restrictedVolumes", pass := false, pod := { sc := some { runAsNonRoot := some (true), seccompType := some (b!"RuntimeDefault") }, initContainers := [{ name := b!"initcontainer1", image := b!"registry.k8s.io/pause", sc := some { allowPrivEsc := some (false), caps := some { add := [], drop := [b!"ALL"] } } }], containers := [{ name := b!"container1", image := b!"registry.k8s.io/pause", sc := some { allowPrivEsc := some (false), caps := some { add := [], drop := [b!"ALL"] } } }], volumes := [{ name := b!"volume1", sources := [.flocker] }] } },
  { level := .restricted, minor := 27, check := b!"restrictedVolumes", pass := false, pod := { sc := some { runAsNonRoot := some (true), seccompType := some (b!"RuntimeDefault") }, initContainers := [{ name := b!"initcontainer1", image := b!"registry.k8s.io/pause", sc := some { allowPrivEsc := some (false), caps := some { add := [], drop := [b!"ALL"] } } }], containers := [{ name := b!"container1", image := b!"registry.k8s.io/pause", sc := some { allowPrivEsc := some (false), caps := some { add := [], drop := [b!"ALL"] } } }], volumes := [{ name := b!"volume1", sources := [.gitRepo] }] } },
  { level := .restricted, minor := 31, check := b!"restrictedVolumes", pass := false, pod := { sc := some { runAsNonRoot := some (true), seccompType := some (b!"RuntimeDefault") }, initContainers := [{ name := b!"initcontainer1", image := b!"registry.k8s.io/pause", sc := some { allowPrivEsc := some (false), caps := some { add := [], drop := [b!"ALL"] } } }], containers := [{ name := b!"container1", image := b!"registry.k8s.io/pause", sc := some { allowPrivEsc := some (false), caps := some { add := [], drop := [b!"ALL"] } } }], volumes := [{ name := b!"volume1", sources := [.hostPath] }] } },
  { level := .restricted, minor := 22, check := b!"restrictedVolumes", pass := false, pod := { sc := some { runAsNonRoot := some (true), seccompType := some (b!"RuntimeDefault") }, initContainers := [{ name := b!"initcontainer1", image := b!"registry.k8s.io/pause", sc := some { allowPrivEsc := some (false), caps := some { add := [], drop := [b!"ALL"] } } }], containers := [{ name := b!"container1", image := b!"registry.k8s.io/pause", sc := some { allowPrivEsc := some (false), caps := some { add := [], drop := [b!"ALL"] } } }], volumes := [{ name := b!"volume1", sources := [.portworxVolume] }] } },
  { level := .restricted, minor := 25, check := b!"restrictedVolumes", pass := false, pod := { sc := some { runAsNonRoot := some (true), seccompType := some (b!"RuntimeDefault") }, initContainers := [{ name := b!"initcontainer1", image := b!"registry.k8s.io/pause", sc := some { allowPrivEsc := some (false), caps := some { add := [], drop := [b!"ALL"] } } }], containers := [{ name := b!"container1", image := b!"registry.k8s.io/pause", sc := some { allowPrivEsc := some (false), caps := some { add := [], drop := [b!"ALL"] } } }], volumes := [{ name := b!"volume1", sources := [.rbd] }] } },
  { level := .restricted, minor := 29, check := b!"restrictedVolumes", pass := false, pod := { sc := some { runAsNonRoot := some (true), seccompType := some (b!"RuntimeDefault") }, initContainers := [{ name := b!"initcontainer1", image := b!"registry.k8s.io/pause", sc := some { allowPrivEsc := some (false), caps := some { add := [], drop := [b!"ALL"] } } }], containers := [{ name := b!"container1", image := b!"registry.k8s.io/pause", sc := some { allowPrivEsc := some (false), caps := some { add := [], drop := [b!"ALL"] } } }], volumes := [{ name := b!"volume1", sources := [.storageos] }] } },
  { level := .restricted, minor := 27, check := b!"seccompProfile_baseline", pass := false, pod := { sc := some { runAsNonRoot := some (true), seccompType := some (b!"Unconfined") }, initContainers := [{ name := b!"initcontainer1", image := b!"registry.k8s.io/pause", sc := some { allowPrivEsc := some (false), caps := some { add := [], drop := [b!"ALL"] } } }], containers := [{ name := b!"container1", image := b!"registry.k8s.io/pause", sc := some { allowPrivEsc := some (false), caps := some { add := [], drop := [b!"ALL"] } } }] } },
  { level := .restricted, minor := 23, check := b!"seLinuxOptions", pass := true, pod := { sc := some { runAsNonRoot := some (true), seccompType := some (b!"RuntimeDefault") }, initContainers := [{ name := b!"initcontainer1", image := b!"registry.k8s.io/pause", sc := some { allowPrivEsc := some (false), caps := some { add := [], drop := [b!"ALL"] }, seLinux := some ({ type := b!"", user := b!"", role := b!"" }) } }], containers := [{ name := b!"container1", image := b!"registry.k8s.io/pause", sc := some { allowPrivEsc := some (false), caps := some { add := [], drop := [b!"ALL"] } } }] } },
  { level := .restricted, minor := 27, check := b!"privileged", pass := false, pod := { sc := some { runAsNonRoot := some (true), seccompType := some (b!"RuntimeDefault") }, initContainers := [{ name := b!"initcontainer1", image := b!"registry.k8s.io/pause", sc := some { privileged := some (true), caps := some { add := [], drop := [b!"ALL"] } } }], containers := [{ name := b!"container1", image := b!"registry.k8s.io/pause", sc := some { allowPrivEsc := some (false), caps := some { add := [], drop := [b!"ALL"] } } }] } },
  { level := .restricted, minor := 31, check := b!"hostNamespaces", pass := false, pod := { hostPID := true, sc := some { runAsNonRoot := some (true), seccompType := some (b!"RuntimeDefault") }, initContainers := [{ name := b!"initcontainer1", image := b!"registry.k8s.io/pause", sc := some { allowPrivEsc := some (false), caps := some { add := [], drop := [b!"ALL"] } } }], containers := [{ name := b!"container1", image := b!"registry.k8s.io/pause", sc := some { allowPrivEsc := some (false), caps := some { add := [], drop := [b!"ALL"] } } }] } },
  { level := .restricted, minor := 22, check := b!"seLinuxOptions", pass := false, pod := { sc := some { runAsNonRoot := some (true), seccompType := some (b!"RuntimeDefault"), seLinux := some ({ type := b!"", user := b!"somevalue", role := b!"" }) }, initContainers := [{ name := b!"initcontainer1", image := b!"registry.k8s.io/pause", sc := some { allowPrivEsc := some (false), caps := some { add := [], drop := [b!"ALL"] }, seLinux := some ({ type := b!"", user := b!"", role := b!"" }) } }], containers := [{ name := b!"container1", image := b!"registry.k8s.io/pause", sc := some { allowPrivEsc := some (false), caps := some { add := [], drop := [b!"ALL"] }, seLinux := some ({ type := b!"", user := b!"", role := b!"" }) } }] } },
  { level := .restricted, minor := 25, check := b!"seLinuxOptions", pass := false, pod := { sc := some { runAsNonRoot := some (true), seccompType := some (b!"RuntimeDefault"), seLinux := some ({ type := b!"", user := b!"", role := b!"somevalue" }) }, initContainers := [{ name := b!"initcontainer1", image := b!"registry.k8s.io/pause", sc := some { allowPrivEsc := some (false), caps := some { add := [], drop := [b!"ALL"] }, seLinux := some ({ type := b!"", user := b!"", role := b!"" }) } }], containers := [{ name := b!"container1", image := b!"registry.k8s.io/pause", sc := some { allowPrivEsc := some (false), caps := some { add := [], drop := [b!"ALL"] }, seLinux := some ({ type := b!"", user := b!"", role := b!"" }) } }] } },
  { level := .restricted, minor := 29, check := b!"seLinuxOptions", pass := true, pod := { sc := some { runAsNonRoot := some (true), seccompType := some (b!"RuntimeDefault"), seLinux := some ({ type := b!"container_t", user := b!"", role := b!"" }) }, initContainers := [{ name := b!"initcontainer1", image := b!"registry.k8s.io/pause", sc := some { allowPrivEsc := some (false), caps := some { add := [], drop := [b!"ALL"] }, seLinux := some ({ type := b!"container_kvm_t", user := b!"", role := b!"" }) } }], containers := [{ name := b!"container1", image := b!"registry.k8s.io/pause", sc := some { allowPrivEsc := some (false), caps := some { add := [], drop := [b!"ALL"] }, seLinux := some ({ type := b!"container_init_t", user := b!"", role := b!"" }) } }] } },
  { level := .restricted, minor := 32, check := b!"runAsNonRoot", pass := true, pod := { sc := some { seccompType := some (b!"RuntimeDefault") }, initContainers := [{ name := b!"initcontainer1", image := b!"registry.k8s.io/pause", sc := some { allowPrivEsc := some (false), caps := some { add := [], drop := [b!"ALL"] }, runAsNonRoot := some (true) } }], containers := [{ name := b!"container1", image := b!"registry.k8s.io/pause", sc := some { allowPrivEsc := some (false), caps := some { add := [], drop := [b!"ALL"] }, runAsNonRoot := some (true) } }] } },
  { level := .restricted, minor := 23, check := b!"capabilities_restricted", pass := false, pod := { sc := some { runAsNonRoot := some (true), seccompType := some (b!"RuntimeDefault") }, initContainers := [{ name := b!"initcontainer1", image := b!"registry.k8s.io/pause", sc := some { allowPrivEsc := some (false), caps := some { add := [], drop := [b!"SYS_TIME", b!"SYS_MODULE", b!"SYS_RAWIO", b!"SYS_PACCT", b!"SYS_ADMIN", b!"SYS_NICE", b!"SYS_RESOURCE", b!"SYS_TIME", b!"SYS_TTY_CONFIG", b!"MKNOD", b!"AUDIT_WRITE", b!"AUDIT_CONTROL", b!"MAC_OVERRIDE", b!"MAC_ADMIN", b!"NET_ADMIN", b!"SYSLOG", b!"CHOWN", b!"NET_RAW", b!"DAC_OVERRIDE", b!"FOWNER", b!"DAC_READ_SEARCH", b!"FSETID", b!"KILL", b!"SETGID", b!"SETUID", b!"LINUX_IMMUTABLE", b!"NET_BIND_SERVICE", b!"NET_BROADCAST", b!"IPC_LOCK", b!"IPC_OWNER", b!"SYS_CHROOT", b!"SYS_PTRACE", b!"SYS_BOOT", b!"LEASE", b!"SETFCAP", b!"WAKE_ALARM", b!"BLOCK_SUSPEND"] } } }], containers := [{ name := b!"container1", image := b!"registry.k8s.io/pause", sc := some { allowPrivEsc := some (false), caps := some { add := [], drop := [b!"SYS_TIME", b!"SYS_MODULE", b!"SYS_RAWIO", b!"SYS_PACCT", b!"SYS_ADMIN", b!"SYS_NICE", b!"SYS_RESOURCE", b!"SYS_TIME", b!"SYS_TTY_CONFIG", b!"MKNOD", b!"AUDIT_WRITE", b!"AUDIT_CONTROL", b!"MAC_OVERRIDE", b!"MAC_ADMIN", b!"NET_ADMIN", b!"SYSLOG", b!"CHOWN", b!"NET_RAW", b!"DAC_OVERRIDE", b!"FOWNER", b!"DAC_READ_SEARCH", b!"FSETID", b!"KILL", b!"SETGID", b!"SETUID", b!"LINUX_IMMUTABLE", b!"NET_BIND_SERVICE", b!"NET_BROADCAST", b!"IPC_LOCK", b!"IPC_OWNER", b!"SYS_CHROOT", b!"SYS_PTRACE", b!"SYS_BOOT", b!"LEASE", b!"SETFCAP", b!"WAKE_ALARM", b!"BLOCK_SUSPEND"] } } }] } },
  { level := .restricted, minor := 8, check := b!"privileged", pass := true, pod := { sc := some { runAsNonRoot := some (true) }, initContainers := [{ name := b!"initcontainer1", image := b!"registry.k8s.io/pause", sc := some { privileged := some (false), allowPrivEsc := some (false) } }], containers := [{ name := b!"container1", image := b!"registry.k8s.io/pause", sc := some { privileged := some (false), allowPrivEsc := some (false) } }] } },
  { level := .restricted, minor := 8, check := b!"runAsNonRoot", pass := false, pod := { sc := some { runAsNonRoot := some (true) }, initContainers := [{ name := b!"initcontainer1", image := b!"registry.k8s.io/pause", sc := some { allowPrivEsc := some (false), runAsNonRoot := some (false) } }], containers := [{ name := b!"container1", image := b!"registry.k8s.io/pause", sc := some { allowPrivEsc := some (false) } }] } },
  { level := .restricted, minor := 19, check := b!"restrictedVolumes", pass := true, pod := { sc := some { runAsNonRoot := some (true), seccompType := some (b!"RuntimeDefault") }, initContainers := [{ name := b!"initcontainer1", image := b!"registry.k8s.io/pause", sc := some { allowPrivEsc := some (false) } }], containers := [{ name := b!"container1", image := b!"registry.k8s.io/pause", sc := some { allowPrivEsc := some (false) } }], volumes := [{ name := b!"volume0" }, { name := b!"volume1", sources := [.emptyDir] }, { name := b!"volume2", sources := [.secret] }, { name := b!"volume3", sources := [.persistentVolumeClaim] }, { name := b!"volume4", sources := [.downwardAPI] }, { name := b!"volume5", sources := [.configMap] }, { name := b!"volume6", sources := [.projected] }] } },
  { level := .restricted, minor := 19, check := b!"restrictedVolumes", pass := false, pod := { sc := some { runAsNonRoot := some (true), seccompType := some (b!"RuntimeDefault") }, initContainers := [{ name := b!"initcontainer1", image := b!"registry.k8s.io/pause", sc := some { allowPrivEsc := some (false) } }], containers := [{ name := b!"container1", image := b!"registry.k8s.io/pause", sc := some { allowPrivEsc := some (false) } }], volumes := [{ name := b!"volume1", sources := [.quobyte] }] } },
  { level := .restricted, minor := 8, check := b!"restrictedVolumes", pass := false, pod := { sc := some { runAsNonRoot := some (true) }, initContainers := [{ name := b!"initcontainer1", image := b!"registry.k8s.io/pause", sc := some { allowPrivEsc := some (false) } }], containers := [{ name := b!"container1", image := b!"registry.k8s.io/pause", sc := some { allowPrivEsc := some (false) } }], volumes := [{ name := b!"volume1", sources := [.awsElasticBlockStore] }] } },
  { level := .restricted, minor := 8, check := b!"restrictedVolumes", pass := false, pod := { sc := some { runAsNonRoot := some (true) }, initContainers := [{ name := b!"initcontainer1", image := b!"registry.k8s.io/pause", sc := some { allowPrivEsc := some (false) } }], containers := [{ name := b!"container1", image := b!"registry.k8s.io/pause", sc := some { allowPrivEsc := some (false) } }], volumes := [{ name := b!"volume1", sources := [.rbd] }] } },
  { level := .restricted, minor := 19, check := b!"seLinuxOptions", pass := false, pod := { sc := some { runAsNonRoot := some (true), seccompType := some (b!"RuntimeDefault"), seLinux := some ({ type := b!"", user := b!"somevalue", role := b!"" }) }, initContainers := [{ name := b!"initcontainer1", image := b!"registry.k8s.io/pause", sc := some { allowPrivEsc := some (false), seLinux := some ({ type := b!"", user := b!"", role := b!"" }) } }], containers := [{ name := b!"container1", image := b!"registry.k8s.io/pause", sc := some { allowPrivEsc := some (false), seLinux := some ({ type := b!"", user := b!"", role := b!"" }) } }] } },
  { level := .restricted, minor := 19, check := b!"windowsHostProcess", pass := false, pod := { hostNetwork := true, sc := some { runAsNonRoot := some (true), seccompType := some (b!"RuntimeDefault"), hostProcess := some none }, initContainers := [{ name := b!"initcontainer1", image := b!"registry.k8s.io/pause", sc := some { allowPrivEsc := some (false), hostProcess := some (some true) } }], containers := [{ name := b!"container1", image := b!"registry.k8s.io/pause", sc := some { allowPrivEsc := some (false), hostProcess := some (some true) } }] } },
  { level := .baseline, minor := 0, check := b!"capabilities_baseline", pass := false, pod := { sc := some {  }, initContainers := [{ name := b!"initcontainer1", image := b!"registry.k8s.io/pause", sc := some { caps := some { add := [], drop := [] } } }], containers := [{ name := b!"container1", image := b!"registry.k8s.io/pause", sc := some { caps := some { add := [b!"NET_RAW"], drop := [] } } }] } },
  { level := .restricted, minor := 25, check := b!"allowPrivilegeEscalation", pass := false, pod := { sc := some { runAsNonRoot := some (true), seccompType := some (b!"RuntimeDefault") }, initContainers := [{ name := b!"initcontainer1", image := b!"registry.k8s.io/pause", sc := some { allowPrivEsc := some (false), caps := some { add := [], drop := [b!"ALL"] } } }], containers := [{ name := b!"container1", image := b!"registry.k8s.io/pause", sc := some { caps := some { add := [], drop := [b!"ALL"] } } }] } },
  { level := .baseline, minor := 31, check := b!"capabilities_baseline", pass := false, pod := { sc := some {  }, initContainers := [{ name := b!"initcontainer1", image := b!"registry.k8s.io/pause", sc := some { caps := some { add := [b!"NET_RAW"], drop := [] } } }], containers := [{ name := b!"container1", image := b!"registry.k8s.io/pause", sc := some { caps := some { add := [], drop := [] } } }] } },
  { level := .restricted, minor := 0, check := b!"procMount", pass := true, pod := { hostUsers := some (false), sc := some { runAsNonRoot := some (true) }, initContainers := [{ name := b!"initcontainer1", image := b!"registry.k8s.io/pause", sc := some { procMount := some (b!"Default") } }], containers := [{ name := b!"container1", image := b!"registry.k8s.io/pause", sc := some { procMount := some (b!"Default") } }] } },
  { level := .baseline, minor := 29, check := b!"seccompProfile_baseline", pass := false, pod := { sc := some {  }, initContainers := [{ name := b!"initcontainer1", image := b!"registry.k8s.io/pause", sc := some {  } }], containers := [{ name := b!"container1", image := b!"registry.k8s.io/pause", sc := some { seccompType := some (b!"Unconfined") } }] } },
  { level := .baseline, minor := 31, check := b!"seccompProfile_baseline", pass := false, pod := { sc := some {  }, initContainers := [{ name := b!"initcontainer1", image := b!"registry.k8s.io/pause", sc := some { seccompType := some (b!"Unconfined") } }], containers := [{ name := b!"container1", image := b!"registry.k8s.io/pause", sc := some {  } }] } },
  { level := .restricted, minor := 0, check := b!"seLinuxOptions", pass := true, pod := { sc := some { runAsNonRoot := some (true) }, initContainers := [{ name := b!"initcontainer1", image := b!"registry.k8s.io/pause", sc := some { seLinux := some ({ type := b!"", user := b!"", role := b!"" }) } }], containers := [{ name := b!"container1", image := b!"registry.k8s.io/pause", sc := some {  } }] } },
  { level := .baseline, minor := 27, check := b!"seLinuxOptions", pass := false, pod := { sc := some { seLinux := some ({ type := b!"somevalue", user := b!"", role := b!"" }) }, initContainers := [{ name := b!"initcontainer1", image := b!"registry.k8s.io/pause", sc := some { seLinux := some ({ type := b!"", user := b!"", role := b!"" }) } }], containers := [{ name := b!"container1", image := b!"registry.k8s.io/pause", sc := some { seLinux := some ({ type := b!"", user := b!"", role := b!"" }) } }] } },
  { level := .baseline, minor := 29, check := b!"seLinuxOptions", pass := false, pod := { sc := some { seLinux := some ({ type := b!"", user := b!"", role := b!"" }) }, initContainers := [{ name := b!"initcontainer1", image := b!"registry.k8s.io/pause", sc := some { seLinux := some ({ type := b!"somevalue", user := b!"", role := b!"" }) } }], containers := [{ name := b!"container1", image := b!"registry.k8s.io/pause", sc := some { seLinux := some ({ type := b!"", user := b!"", role := b!"" }) } }] } },
  { level := .baseline, minor := 32, check := b!"seLinuxOptions", pass := false, pod := { sc := some { seLinux := some ({ type := b!"", user := b!"", role := b!"" }) }, initContainers := [{ name := b!"initcontainer1", image := b!"registry.k8s.io/pause", sc := some { seLinux := some ({ type := b!"", user := b!"", role := b!"" }) } }], containers := [{ name := b!"container1", image := b!"registry.k8s.io/pause", sc := some { seLinux := some ({ type := b!"somevalue", user := b!"", role := b!"" }) } }] } },
  { level := .baseline, minor := 31, check := b!"windowsHostProcess", pass := false, pod := { hostNetwork := true, sc := some { hostProcess := some (some true) }, initContainers := [{ name := b!"initcontainer1", image := b!"registry.k8s.io/pause", sc := some { hostProcess := some none } }], containers := [{ name := b!"container1", image := b!"registry.k8s.io/pause", sc := some { hostProcess := some none } }] } },
  { level := .restricted, minor := 32, check := b!"allowPrivilegeEscalation", pass := false, pod := { sc := some { runAsNonRoot := some (true), seccompType := some (b!"RuntimeDefault") }, initContainers := [{ name := b!"initcontainer1", image := b!"registry.k8s.io/pause", sc := some { allowPrivEsc := some (false), caps := some { add := [], drop := [b!"ALL"] } } }], containers := [{ name := b!"container1", image := b!"registry.k8s.io/pause", sc := some { allowPrivEsc := some (true), caps := some { add := [], drop := [b!"ALL"] } } }] } }
]

/-- every fixture of this chunk agrees with the evaluator: kernel evaluation of the whole (finite) table -/
theorem chunk1_ok : chunk1.all fixtureOk = true := by decide +kernel

end PSA.Fixtures
