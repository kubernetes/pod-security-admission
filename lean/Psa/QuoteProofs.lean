import Psa.NamesProofs
/-! What stands between double quotes in a rendered detail: the converse of `detail_names`. For names and values free of
    the double-quote byte (container and volume names of API-valid pods are DNS labels), the quoted segments of every detail
    shape are names of listed offenders or values the control quotes — nothing else is named.

    This file has the scanner and a calculus for it: `Segs p l` says that the text `p` closes every quote it opens and quotes
    exactly the strings `l`, whatever follows it. It holds of the pieces a detail is made of (a quote-free literal, `quoted n`,
    `joinQuote l`, …) and is kept by `++` and by `Str.join`, so the segments of a whole detail are read off its shape. -/
namespace PSA

/-- scanner over the bytes of a text: `inQ` = inside a quoted segment, `cur` = its bytes so far (reversed) -/
def segsAux (inQ : Bool) (cur : Str) : Str → List Str
  | [] => []
  | c :: rest =>
    if c = 34 then (if inQ then cur.reverse :: segsAux false [] rest else segsAux true [] rest)
    else segsAux inQ (if inQ then c :: cur else cur) rest

/-- the strings between the 1st and 2nd, 3rd and 4th, … double quote of a text -/
def quotedSegs (s : Str) : List Str := segsAux false [] s

/-- free of the double-quote byte -/
def noQ (s : Str) : Prop := (34 : Nat) ∉ s

instance (s : Str) : Decidable (noQ s) := by unfold noQ; infer_instance

theorem noQ_cons {c : Nat} {s : Str} : noQ (c :: s) ↔ c ≠ 34 ∧ noQ s := by simp [noQ, eq_comm]

theorem noQ_append {a b : Str} : noQ (a ++ b) ↔ noQ a ∧ noQ b := by simp [noQ, not_or]

theorem noQ_join (sep : Str) (l : List Str) (hs : noQ sep) (h : ∀ x ∈ l, noQ x) : noQ (Str.join sep l) := by
  fun_induction Str.join sep l with
  | case1 => exact List.not_mem_nil
  | case2 a => exact h a (by simp)
  | case3 a b rest ih => exact noQ_append.mpr ⟨noQ_append.mpr ⟨h a (by simp), hs⟩, ih fun x hx => h x (by simp [hx])⟩

theorem noQ_pluralize (s p : Str) (n : Nat) (hs : noQ s) (hp : noQ p) : noQ (pluralize s p n) := by
  unfold pluralize; split <;> assumption

/-- inside a quote, the scanner collects a quote-free `n` up to the closing quote -/
theorem segsAux_inQ (n rest cur : Str) (h : noQ n) :
    segsAux true cur (n ++ 34 :: rest) = (cur.reverse ++ n) :: segsAux false [] rest := by
  induction n generalizing cur with
  | nil => simp [segsAux]
  | cons c n ih =>
    obtain ⟨hc, hn⟩ := noQ_cons.mp h
    simp only [List.cons_append, segsAux, hc, ↓reduceIte]
    rw [ih (c :: cur) hn]
    simp

/-- `p` closes every quote it opens, and the strings it quotes are `l` -/
def Segs (p : Str) (l : List Str) : Prop := ∀ r, quotedSegs (p ++ r) = l ++ quotedSegs r

namespace Segs
variable {p a b s n sep : Str} {l la lb : List Str}

theorem eq (h : Segs p l) : quotedSegs p = l := by simpa [quotedSegs, segsAux] using h []

theorem nil : Segs [] [] := fun _ => rfl

theorem lit (h : noQ p) : Segs p [] := by
  intro r
  induction p with
  | nil => rfl
  | cons c p ih =>
    obtain ⟨hc, hp⟩ := noQ_cons.mp h
    simp only [quotedSegs, List.cons_append, segsAux, hc, ↓reduceIte, Bool.false_eq_true]
    exact ih hp

theorem quoted (h : noQ n) : Segs (quoted n) [n] := by
  intro r
  have e : PSA.quoted n ++ r = 34 :: (n ++ 34 :: r) := by simp [PSA.quoted]
  simp only [quotedSegs, e, segsAux, ↓reduceIte, Bool.false_eq_true]
  rw [segsAux_inQ n r [] h]; rfl

theorem append (ha : Segs a la) (hb : Segs b lb) : Segs (a ++ b) (la ++ lb) := fun r => by
  rw [List.append_assoc, ha, hb, List.append_assoc]

theorem pluralize {k : Nat} (hs : noQ s) (hp : noQ p) : Segs (pluralize s p k) [] := lit (noQ_pluralize _ _ _ hs hp)

theorem join_append {xs ys : List Str} (hs : noQ sep) (hx : Segs (Str.join sep xs) la) (hy : Segs (Str.join sep ys) lb) :
    Segs (Str.join sep (xs ++ ys)) (la ++ lb) := by
  have hm : noQ (if xs.isEmpty || ys.isEmpty then [] else sep) := by split; exact List.not_mem_nil; exact hs
  simpa [Str.join_append] using (hx.append (lit hm)).append hy

/-- a part of a joined list that is there on a condition; `Str.join sep [a]` is `a` -/
theorem join_ite {xs ys : List Str} (c : Prop) [Decidable c] (hx : Segs (Str.join sep xs) la) (hy : Segs (Str.join sep ys) lb) :
    Segs (Str.join sep (if c then xs else ys)) (if c then la else lb) := by
  split <;> assumption

theorem join {α : Type} {items : List α} {g : α → Str} {f : α → List Str} (hs : noQ sep)
    (h : ∀ x ∈ items, Segs (g x) (f x)) : Segs (Str.join sep (items.map g)) (items.flatMap f) := by
  induction items with
  | nil => exact nil
  | cons x xs ih => exact join_append (xs := [g x]) hs (h x (by simp)) (ih fun y hy => h y (by simp [hy]))

/-- a quoted, comma-separated list contributes exactly its members -/
theorem joinQuote (h : ∀ x ∈ l, noQ x) : Segs (joinQuote l) l := by
  simpa [joinQuote_eq_join] using join (f := fun x => [x]) (sep := b!", ") (by decide) fun x hx => quoted (h x hx)

/-- `container(s) "a", "b"`: exactly the containers are quoted -/
theorem ctrs (h : ∀ x ∈ l, noQ x) : Segs (ctrs l) l :=
  ((pluralize (by decide) (by decide)).append (lit (by decide))).append (joinQuote h)

/-- `pod and container(s) "a", "b"`: exactly the containers are quoted -/
theorem setters {o : CheckOut} (h : ∀ x ∈ o.containers, noQ x) : Segs (andJoin (setters o)) o.containers := by
  have e : ((if o.pod then [] else []) ++ if o.containers.isEmpty then [] else o.containers) = o.containers := by
    cases o.pod <;> cases o.containers <;> rfl
  exact e ▸ join_append (by decide) (join_ite _ (lit (by decide)) nil) (join_ite _ nil (ctrs h))

end Segs

end PSA
