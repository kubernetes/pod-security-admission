import Psa.Checks
import Psa.Revs
/-! The Pod Security Standards, control by control, as plain predicates.  Written from the published
    text (Appendix A of DESIGN.md); `T` supplies the published allow-lists. -/
namespace PSA.Std
open PSA

def hostProcess (p : Pod) : Prop :=
  p.get (·.hostProcess) ≠ some (some true) ∧ ∀ c ∈ p.visit, c.get (·.hostProcess) ≠ some (some true)
def hostNamespaces (p : Pod) : Prop := p.hostNetwork = false ∧ p.hostPID = false ∧ p.hostIPC = false
def privileged (p : Pod) : Prop := ∀ c ∈ p.visit, c.get (·.privileged) ≠ some true
def capabilities (T : Tables) (p : Pod) : Prop :=
  ∀ c ∈ p.visit, ∀ k, c.get (·.caps) = some k → ∀ x ∈ k.add, x ∈ T.capsBaseline
def hostPath (p : Pod) : Prop := ∀ v ∈ p.volumes, VolKind.hostPath ∉ v.sources
def hostPorts (p : Pod) : Prop := ∀ c ∈ p.visit, ∀ port ∈ c.hostPorts, port = 0
def appArmor (T : Tables) (p : Pod) : Prop :=
  (∀ t, p.get (·.appArmorType) = some t → t ∈ T.appArmorTypes) ∧
  (∀ c ∈ p.visit, ∀ t, c.get (·.appArmorType) = some t → t ∈ T.appArmorTypes) ∧
  (∀ kv ∈ p.annotations, appArmorAnnKeyPrefix <+: kv.1 → kv.2 ∈ T.appArmorAnnValues ∨ T.appArmorAnnPrefix <+: kv.2)
def seLinuxOpt (types : List Str) (o : SELinux) : Prop := o.type ∈ types ∧ o.user = [] ∧ o.role = []
def seLinux (types : List Str) (p : Pod) : Prop :=
  (∀ o, p.get (·.seLinux) = some o → seLinuxOpt types o) ∧
  (∀ c ∈ p.visit, ∀ o, c.get (·.seLinux) = some o → seLinuxOpt types o)
def procMount (T : Tables) (p : Pod) : Prop := ∀ c ∈ p.visit, ∀ m, c.get (·.procMount) = some m → m = T.procMountDefault
def seccompAnn (T : Tables) (p : Pod) : Prop :=
  let ok := fun v => v ∈ T.seccompAnnValues ∨ T.seccompAnnPrefix <+: v
  (∀ v, p.ann seccompPodAnnKey = some v → ok v) ∧
  (∀ c ∈ p.visit, ∀ v, p.ann (seccompContainerAnnPrefix ++ c.name) = some v → ok v)
def seccompField (T : Tables) (p : Pod) : Prop :=
  (∀ t, p.get (·.seccompType) = some t → t ∈ T.seccompTypes) ∧
  (∀ c ∈ p.visit, ∀ t, c.get (·.seccompType) = some t → t ∈ T.seccompTypes)
def sysctls (allowed : List Str) (p : Pod) : Prop := ∀ sc, p.sc = some sc → ∀ s ∈ sc.sysctls, s ∈ allowed

def volumeTypes (T : Tables) (p : Pod) : Prop := ∀ v ∈ p.volumes, ∃ k ∈ v.sources, k ∈ T.volAllowed
def privilegeEscalation (p : Pod) : Prop := ∀ c ∈ p.visit, c.get (·.allowPrivEsc) = some false
def runAsNonRoot (p : Pod) : Prop :=
  p.get (·.runAsNonRoot) ≠ some false ∧
  ∀ c ∈ p.visit, c.get (·.runAsNonRoot) = some true ∨ (c.get (·.runAsNonRoot) = none ∧ p.get (·.runAsNonRoot) = some true)
def runAsUser (p : Pod) : Prop := p.get (·.runAsUser) ≠ some 0 ∧ ∀ c ∈ p.visit, c.get (·.runAsUser) ≠ some 0
def seccompRequired (T : Tables) (p : Pod) : Prop :=
  seccompField T p ∧ ∀ c ∈ p.visit, (c.get (·.seccompType)).isSome ∨ (p.get (·.seccompType)).isSome
def capabilitiesRestricted (T : Tables) (p : Pod) : Prop :=
  ∀ c ∈ p.visit, ∃ k, c.get (·.caps) = some k ∧ T.capAll ∈ k.drop ∧ ∀ x ∈ k.add, x ∈ T.capsRestrictedAdd

/-! ### the two profiles -/

/-- baseline profile at policy version v1.V -/
def baseline (T : Tables) (V : Nat) (p : Pod) : Prop :=
  appArmor T p ∧ capabilities T p ∧ hostNamespaces p ∧ hostPath p ∧ hostPorts p ∧ privileged p ∧ procMount T p ∧
  seLinux (if V < 31 then T.selinux0 else T.selinux31) p ∧
  (if V < 19 then seccompAnn T p else seccompField T p) ∧
  sysctls (if V < 27 then T.sysctls0 else if V < 29 then T.sysctls27 else if V < 32 then T.sysctls29 else T.sysctls32) p ∧
  hostProcess p

/-- the three Linux-only restricted controls are waived for windows pods from v1.25 -/
def linuxOnly (T : Tables) (V : Nat) (p : Pod) (c : Prop) : Prop := (25 ≤ V ∧ p.windowsOS T = true) ∨ c

def restricted (T : Tables) (V : Nat) (p : Pod) : Prop :=
  baseline T V p ∧ volumeTypes T p ∧ runAsNonRoot p ∧
  (8 ≤ V → linuxOnly T V p (privilegeEscalation p)) ∧
  (19 ≤ V → linuxOnly T V p (seccompRequired T p)) ∧
  (22 ≤ V → linuxOnly T V p (capabilitiesRestricted T p)) ∧
  (23 ≤ V → runAsUser p)

end PSA.Std

namespace PSA

/-- side conditions on the (regenerated) tables that the override edges need; `decide`d for the concrete tables -/
structure TablesOK (T : Tables) : Prop where
  hostPathNotAllowed : VolKind.hostPath ∉ T.volAllowed
  restrictedAddSub : ∀ x ∈ T.capsRestrictedAdd, x ∈ T.capsBaseline

/-- ApiValid in terms of the tables' notion of a windows pod -/
def ApiValidT (T : Tables) (p : Pod) : Prop :=
  (∀ v ∈ p.volumes, v.sources.length ≤ 1) ∧
  (p.windowsOS T = true →
     p.get (·.seccompType) = none ∧
     ∀ c ∈ p.visit, c.get (·.seccompType) = none ∧ c.get (·.caps) = none ∧ c.get (·.allowPrivEsc) = none)


theorem badOpt_false_iff (ok : Str → Bool) (o : Option Str) : badOpt ok o = false ↔ ∀ t, o = some t → ok t = true := by
  cases o <;> simp [badOpt]

theorem privileged_spec (p : Pod) : (privileged_1_0 p).allowed = true ↔ Std.privileged p := by
  simp only [privileged_1_0, mk_allowed, offenders_nil_iff, and_true, true_and, Std.privileged, cPrivileged,
    beq_eq_false_iff_ne]

theorem hostNamespaces_spec (p : Pod) : (hostNamespaces_1_0 p).allowed = true ↔ Std.hostNamespaces p := by
  simp only [hostNamespaces_1_0, mk_allowed, Std.hostNamespaces, true_and, List.append_eq_nil_iff, ite_eq_right_iff,
    reduceCtorEq, imp_false, Bool.not_eq_true, and_assoc]

theorem hostPorts_spec (p : Pod) : (hostPorts_1_0 p).allowed = true ↔ Std.hostPorts p := by
  simp only [hostPorts_1_0, mk_allowed, offenders_nil_iff, and_true, true_and, Std.hostPorts, cHostPorts, List.any_eq_false,
    bne_iff_ne, ne_eq, Decidable.not_not]

theorem hostPath_spec (p : Pod) : (hostPathVolumes_1_0 p).allowed = true ↔ Std.hostPath p := by
  simp only [hostPathVolumes_1_0, mk_allowed, and_true, true_and, Std.hostPath, List.map_eq_nil_iff,
    List.filter_eq_nil_iff, vHostPath, List.contains_eq_mem, decide_eq_true_eq]

theorem capabilitiesBaseline_spec (T : Tables) (p : Pod) :
    (capabilitiesBaseline_1_0 T p).allowed = true ↔ Std.capabilities T p := by
  simp only [capabilitiesBaseline_1_0, mk_allowed, offenders_nil_iff, and_true, true_and, Std.capabilities, cCapsBaseline]
  refine forall₂_congr fun c _ => ?_
  cases c.get (·.caps) <;> simp

theorem restrictedVolumes_spec (T : Tables) (p : Pod) :
    (restrictedVolumes_1_0 T p).allowed = true ↔ Std.volumeTypes T p := by
  simp only [restrictedVolumes_1_0, mk_allowed, and_true, true_and, Std.volumeTypes, List.map_eq_nil_iff,
    List.filter_eq_nil_iff, vRestricted, Bool.not_eq_true', Bool.not_eq_false, List.any_eq_true, List.contains_eq_mem,
    decide_eq_true_eq]

theorem allowPrivilegeEscalation_spec (p : Pod) :
    (allowPrivilegeEscalation_1_8 p).allowed = true ↔ Std.privilegeEscalation p := by
  simp only [allowPrivilegeEscalation_1_8, mk_allowed, offenders_nil_iff, and_true, true_and, Std.privilegeEscalation,
    cAllowPrivEsc, Bool.not_eq_false', beq_iff_eq]

theorem seccompBaseline_1_19_spec (T : Tables) (p : Pod) :
    (seccompBaseline_1_19 T p).allowed = true ↔ Std.seccompField T p := by
  simp only [seccompBaseline_1_19, mk_allowed, offenders_nil_iff, and_true, Std.seccompField, badOpt_false_iff,
    List.contains_eq_mem, decide_eq_true_eq]

theorem procMount_spec (T : Tables) (p : Pod) :
    (procMount_1_0 T false p).allowed = true ↔ Std.procMount T p := by
  simp only [procMount_1_0, relaxed, Bool.false_and, Bool.false_eq_true, ↓reduceIte, mk_allowed, offenders_nil_iff,
    and_true, true_and, Std.procMount, badOpt_false_iff, beq_iff_eq]

theorem runAsUser_spec (p : Pod) : (runAsUser_1_23 false p).allowed = true ↔ Std.runAsUser p := by
  simp only [runAsUser_1_23, relaxed, Bool.false_and, Bool.false_eq_true, ↓reduceIte, mk_allowed, offenders_nil_iff,
    and_true, Std.runAsUser, beq_eq_false_iff_ne, ne_eq]

theorem hostProcessSet_false_iff (o : Option (Option Bool)) : hostProcessSet o = false ↔ o ≠ some (some true) := by
  cases o with
  | none => simp [hostProcessSet]
  | some x => cases x with
    | none => simp [hostProcessSet]
    | some b => cases b <;> simp [hostProcessSet]

theorem windowsHostProcess_spec (p : Pod) : (windowsHostProcess_1_0 p).allowed = true ↔ Std.hostProcess p := by
  simp only [windowsHostProcess_1_0, mk_allowed, offenders_nil_iff, and_true, Std.hostProcess, hostProcessSet_false_iff]

theorem sysctls_spec (allowed : List Str) (p : Pod) : (sysctls allowed p).allowed = true ↔ Std.sysctls allowed p := by
  simp only [sysctls, mk_allowed, true_and, Std.sysctls, List.filter_eq_nil_iff]
  cases p.sc <;> simp

theorem appArmor_spec (T : Tables) (p : Pod) : (appArmorProfile_1_0 T p).allowed = true ↔ Std.appArmor T p := by
  simp only [appArmorProfile_1_0, mk_allowed, offenders_nil_iff, true_and, Std.appArmor, badOpt_false_iff,
    List.contains_eq_mem, decide_eq_true_eq, List.map_eq_nil_iff, List.filter_eq_nil_iff]
  refine and_congr_right fun _ => and_congr_right fun _ => forall₂_congr fun kv _ => ?_
  simp [badAppArmorAnn, appArmorAnnOK, Decidable.or_iff_not_imp_left]

theorem badSELinux_false_iff (types : List Str) (o : Option SELinux) :
    badSELinux types o = false ↔ ∀ x, o = some x → Std.seLinuxOpt types x := by
  cases o with
  | none => simp [badSELinux]
  | some x =>
    simp only [badSELinux, seLinuxOK, Bool.not_eq_eq_eq_not, Bool.not_false, Bool.and_eq_true, List.contains_eq_mem,
      decide_eq_true_eq, List.isEmpty_iff, Option.some.injEq, forall_eq', Std.seLinuxOpt, and_assoc]

theorem seLinux_spec (types : List Str) (p : Pod) : (seLinuxOptions types p).allowed = true ↔ Std.seLinux types p := by
  simp only [seLinuxOptions, mk_allowed, offenders_nil_iff, and_true, Std.seLinux, badSELinux_false_iff]

theorem seccompBaseline_1_0_spec (T : Tables) (p : Pod) :
    (seccompBaseline_1_0 T p).allowed = true ↔ Std.seccompAnn T p := by
  simp only [seccompBaseline_1_0, mk_allowed, offenders_nil_iff, and_true, Std.seccompAnn, badOpt_false_iff,
    seccompAnnOK, Bool.or_eq_true, List.contains_eq_mem, decide_eq_true_eq, List.isPrefixOf_iff_prefix]

theorem capabilitiesRestricted_1_22_spec (T : Tables) (p : Pod) :
    (capabilitiesRestricted_1_22 T p).allowed = true ↔ Std.capabilitiesRestricted T p := by
  simp only [capabilitiesRestricted_1_22, mk_allowed, offenders_nil_iff, and_true, true_and, Std.capabilitiesRestricted,
    ← forall_and, cMissingDropAll, cAddsForbidden]
  refine forall₂_congr fun c _ => ?_
  cases c.get (·.caps) <;> simp

theorem runAsNonRoot_spec (p : Pod) : (runAsNonRoot_1_0 false p).allowed = true ↔ Std.runAsNonRoot p := by
  simp only [runAsNonRoot_1_0, relaxed, Bool.false_and, Bool.false_eq_true, ↓reduceIte, twoTier_allowed, offenders_nil_iff,
    Std.runAsNonRoot, beq_eq_false_iff_ne, ← forall_and]
  refine and_congr_right fun _ => forall₂_congr fun c _ => ?_
  cases c.get (·.runAsNonRoot) with
  | none => simp
  | some b => cases b <;> simp

theorem seccompRestricted_1_19_spec (T : Tables) (p : Pod) :
    (seccompRestricted_1_19 T p).allowed = true ↔ Std.seccompRequired T p := by
  simp only [seccompRestricted_1_19, twoTier_allowed, offenders_nil_iff, Std.seccompRequired, Std.seccompField,
    badOpt_false_iff, List.contains_eq_mem, decide_eq_true_eq, and_assoc]
  -- a pod-level profile that is set is an allowed one, by the first conjunct
  refine and_congr_right fun hpod => and_congr_right fun _ => forall₂_congr fun c _ => ?_
  cases c.get (·.seccompType) with
  | some t => simp
  | none =>
    cases hp : p.get (·.seccompType) with
    | none => simp [goodOpt]
    | some t => simp [goodOpt, hpod t hp]

/-- the shape of the three v1.25 restricted revisions: a windows pod passes, any other pod goes to the earlier revision -/
theorem windowsOr_allowed (w : Bool) (o : CheckOut) :
    (if w = true then CheckOut.ok else o).allowed = true ↔ w = true ∨ o.allowed = true := by
  cases w <;> simp [CheckOut.ok]

namespace Std
/-- what the Standard asks of a pod under each revision -/
def ofRev (T : Tables) : RevId → Pod → Prop
  | .allowPrivEsc8 => privilegeEscalation
  | .allowPrivEsc25 => fun p => p.windowsOS T = true ∨ privilegeEscalation p
  | .appArmor0 => appArmor T
  | .capsBaseline0 => capabilities T
  | .capsRestricted22 => capabilitiesRestricted T
  | .capsRestricted25 => fun p => p.windowsOS T = true ∨ capabilitiesRestricted T p
  | .hostNamespaces0 => hostNamespaces
  | .hostPath0 => hostPath
  | .hostPorts0 => hostPorts
  | .privileged0 => privileged
  | .procMount0 => procMount T
  | .restrictedVolumes0 => volumeTypes T
  | .runAsNonRoot0 => runAsNonRoot
  | .runAsUser23 => runAsUser
  | .seLinux0 => seLinux T.selinux0
  | .seLinux31 => seLinux T.selinux31
  | .seccompB0 => seccompAnn T
  | .seccompB19 => seccompField T
  | .seccompR19 => seccompRequired T
  | .seccompR25 => fun p => p.windowsOS T = true ∨ seccompRequired T p
  | .sysctls0 => sysctls T.sysctls0
  | .sysctls27 => sysctls T.sysctls27
  | .sysctls29 => sysctls T.sysctls29
  | .sysctls32 => sysctls T.sysctls32
  | .hostProcess0 => hostProcess
end Std

theorem run_allowed_iff (T : Tables) (r : RevId) (p : Pod) : (run T false r p).allowed = true ↔ Std.ofRev T r p := by
  cases r with
  | allowPrivEsc8 => exact allowPrivilegeEscalation_spec p
  | allowPrivEsc25 => exact (windowsOr_allowed _ _).trans (or_congr_right (allowPrivilegeEscalation_spec p))
  | appArmor0 => exact appArmor_spec T p
  | capsBaseline0 => exact capabilitiesBaseline_spec T p
  | capsRestricted22 => exact capabilitiesRestricted_1_22_spec T p
  | capsRestricted25 => exact (windowsOr_allowed _ _).trans (or_congr_right (capabilitiesRestricted_1_22_spec T p))
  | hostNamespaces0 => exact hostNamespaces_spec p
  | hostPath0 => exact hostPath_spec p
  | hostPorts0 => exact hostPorts_spec p
  | privileged0 => exact privileged_spec p
  | procMount0 => exact procMount_spec T p
  | restrictedVolumes0 => exact restrictedVolumes_spec T p
  | runAsNonRoot0 => exact runAsNonRoot_spec p
  | runAsUser23 => exact runAsUser_spec p
  | seLinux0 => exact seLinux_spec T.selinux0 p
  | seLinux31 => exact seLinux_spec T.selinux31 p
  | seccompB0 => exact seccompBaseline_1_0_spec T p
  | seccompB19 => exact seccompBaseline_1_19_spec T p
  | seccompR19 => exact seccompRestricted_1_19_spec T p
  | seccompR25 => exact (windowsOr_allowed _ _).trans (or_congr_right (seccompRestricted_1_19_spec T p))
  | sysctls0 => exact sysctls_spec _ p
  | sysctls27 => exact sysctls_spec _ p
  | sysctls29 => exact sysctls_spec _ p
  | sysctls32 => exact sysctls_spec _ p
  | hostProcess0 => exact windowsHostProcess_spec p

end PSA
