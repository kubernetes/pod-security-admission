import Psa.NamespaceProofs
import Psa.SortProofs
/-! The grouping loop of the dry run computes its declarative description (`groupsLoop_eq_spec`); order independence,
    completeness and honesty of the existing-pod dry run. -/
namespace PSA

/-! ### loop = description -/

theorem keysOf_append (W : List (Str × Str)) (x : Str × Str) :
    keysOf (W ++ [x]) = if x.2 ∈ keysOf W then keysOf W else keysOf W ++ [x.2] := by
  unfold keysOf
  rw [List.foldl_append]
  rfl

theorem mem_keysOf (W : List (Str × Str)) (w : Str) : w ∈ keysOf W ↔ ∃ x ∈ W, x.2 = w := by
  simpa [keysOf] using mem_foldl_firsts Prod.snd W [] w

theorem nodup_keysOf (W : List (Str × Str)) : (keysOf W).Nodup := nodup_foldl_firsts Prod.snd W [] List.nodup_nil

def upd (g : Group) (name : Str) : Group :=
  { g with first := if slt name g.first then name else g.first, count := g.count + 1 }

theorem addPod_map_mem (keys : List Str) (g : Str → Group) (hg : ∀ k, (g k).warning = k) (w n : Str)
    (hw : w ∈ keys) (hnd : keys.Nodup) :
    addPod (keys.map g) w n = keys.map (fun k => if k = w then upd (g k) n else g k) := by
  induction keys with
  | nil => simp at hw
  | cons k ks ih =>
    have hnd' := List.nodup_cons.mp hnd
    simp only [List.map_cons, addPod, hg]
    by_cases hk : k = w
    · subst hk
      simp only [↓reduceIte, upd, List.cons.injEq]
      refine ⟨by simp [hg], ?_⟩
      apply List.map_congr_left
      intro a ha
      have : a ≠ k := fun h => hnd'.1 (h ▸ ha)
      simp [this]
    · have hw' : w ∈ ks := by
        rcases List.mem_cons.mp hw with h | h
        · exact absurd h.symm hk
        · exact h
      simp [hk, ih hw' hnd'.2]

theorem addPod_map_not_mem (keys : List Str) (g : Str → Group) (hg : ∀ k, (g k).warning = k) (w n : Str)
    (hw : w ∉ keys) : addPod (keys.map g) w n = keys.map g ++ [⟨w, n, 1⟩] := by
  induction keys with
  | nil => simp [addPod]
  | cons k ks ih =>
    have hk : k ≠ w := fun h => hw (h ▸ List.mem_cons_self ..)
    have hw' : w ∉ ks := fun h => hw (List.mem_cons_of_mem _ h)
    simp [addPod, hg, hk, ih hw']

theorem namesOf_append (k : Str) (W : List (Str × Str)) (n w : Str) :
    namesOf k (W ++ [(n, w)]) = if w = k then namesOf k W ++ [n] else namesOf k W := by
  unfold namesOf
  by_cases h : w = k <;> simp [List.filter_append, h]

theorem firstOf_append (l : List Str) (n : Str) (hl : l ≠ []) :
    firstOf (l ++ [n]) = if slt n (firstOf l) then n else firstOf l := by
  cases l with
  | nil => exact absurd rfl hl
  | cons a as =>
    simp only [List.cons_append, firstOf, minStr, List.foldl_append, List.foldl_cons, List.foldl_nil]
    rfl

theorem namesOf_eq_nil_iff (W : List (Str × Str)) (w : Str) : namesOf w W = [] ↔ w ∉ keysOf W := by
  simp only [namesOf, mem_keysOf, List.map_eq_nil_iff, List.filter_eq_nil_iff, decide_eq_true_eq, not_exists, not_and]

theorem groups_step (W : List (Str × Str)) (n w : Str) :
    addPod (groupsSpec W) w n = groupsSpec (W ++ [(n, w)]) := by
  unfold groupsSpec
  rw [keysOf_append]
  by_cases hw : w ∈ keysOf W
  · simp only [hw, ↓reduceIte]
    rw [addPod_map_mem _ _ (fun k => rfl) w n hw (nodup_keysOf W)]
    apply List.map_congr_left
    intro k hk
    by_cases hkw : k = w
    · subst hkw
      simp only [↓reduceIte, upd, groupFor, namesOf_append]
      rw [firstOf_append _ _ (fun h => (namesOf_eq_nil_iff W k).mp h hw)]
      simp
      rfl
    · have : ¬ w = k := fun h => hkw h.symm
      simp [hkw, groupFor, namesOf_append, this]
  · simp only [hw, ↓reduceIte]
    rw [addPod_map_not_mem _ _ (fun k => rfl) w n hw, List.map_append]
    congr 1
    · apply List.map_congr_left
      intro k hk
      have : ¬ w = k := fun h => hw (h ▸ hk)
      simp [groupFor, namesOf_append, this]
    · simp [groupFor, namesOf_append, (namesOf_eq_nil_iff W w).mpr hw, firstOf, minStr]

/-- C11/C12 core: the incremental bookkeeping of the loop computes exactly, per distinct reason text,
    the lexically first pod name and the number of pods -/
theorem groupsLoop_eq_spec (W : List (Str × Str)) : groupsLoop W = groupsSpec W := by
  have : ∀ W0 W1 : List (Str × Str), W1.foldl (fun gs x => addPod gs x.2 x.1) (groupsSpec W0) = groupsSpec (W0 ++ W1) := by
    intro W0 W1
    induction W1 generalizing W0 with
    | nil => simp
    | cons x xs ih =>
      simp only [List.foldl_cons]
      rw [groups_step, ih]
      simp
  simpa [groupsLoop, groupsSpec, keysOf] using this [] W


/-! ### the first name is the lexically least; everything is order-independent -/

theorem minStr_spec (a : Str) (l : List Str) :
    minStr a l ∈ a :: l ∧ ∀ x ∈ a :: l, minStr a l ≤ x := by
  induction l generalizing a with
  | nil => simp [minStr]
  | cons b bs ih =>
    -- one step of the fold keeps the smaller `m` of `a` and `b`
    obtain ⟨m, hm, hmem, hma, hmb⟩ : ∃ m, minStr a (b :: bs) = minStr m bs ∧ (m = a ∨ m = b) ∧ m ≤ a ∧ m ≤ b := by
      by_cases h : slt b a = true
      · exact ⟨b, by simp [minStr, h], .inr rfl, Std.le_of_lt (of_decide_eq_true h), Std.le_refl _⟩
      · exact ⟨a, by simp [minStr, h], .inl rfl, Std.le_refl _, Std.not_lt.mp fun hlt => h (decide_eq_true hlt)⟩
    obtain ⟨h1, h2⟩ := ih m
    rw [hm]
    refine ⟨?_, fun x hx => ?_⟩
    · rcases List.mem_cons.mp h1 with h | h
      · rw [h]; rcases hmem with rfl | rfl <;> simp
      · exact List.mem_cons_of_mem _ (List.mem_cons_of_mem _ h)
    · rcases List.mem_cons.mp hx with rfl | hx
      · exact Std.le_trans (h2 m (by simp)) hma
      · rcases List.mem_cons.mp hx with rfl | hx
        · exact Std.le_trans (h2 m (by simp)) hmb
        · exact h2 x (List.mem_cons_of_mem _ hx)

/-- `C11`: the name printed for a group is the lexically first of its pods -/
theorem firstOf_spec (l : List Str) (hl : l ≠ []) : firstOf l ∈ l ∧ ∀ x ∈ l, firstOf l ≤ x := by
  cases l with
  | nil => exact absurd rfl hl
  | cons a as => exact minStr_spec a as

theorem firstOf_perm (l l' : List Str) (h : l.Perm l') : firstOf l = firstOf l' := by
  cases l with
  | nil => have := h.length_eq; cases l' <;> simp_all
  | cons a as =>
    have hne : l' ≠ [] := by intro h'; subst h'; simpa using h.length_eq
    obtain ⟨m1, le1⟩ := firstOf_spec (a :: as) (by simp)
    obtain ⟨m2, le2⟩ := firstOf_spec l' hne
    exact Std.le_antisymm (le1 _ (h.mem_iff.mpr m2)) (le2 _ (h.mem_iff.mp m1))

theorem keysOf_perm (W W' : List (Str × Str)) (h : W.Perm W') : (keysOf W).Perm (keysOf W') := by
  rw [List.perm_ext_iff_of_nodup (nodup_keysOf W) (nodup_keysOf W')]
  intro w
  rw [mem_keysOf, mem_keysOf]
  exact exists_congr fun x => and_congr_left fun _ => h.mem_iff

theorem groupFor_perm (W W' : List (Str × Str)) (h : W.Perm W') (w : Str) : groupFor W w = groupFor W' w := by
  have hn : (namesOf w W).Perm (namesOf w W') := (h.filter _).map _
  simp [groupFor, firstOf_perm _ _ hn, hn.length_eq]

/-- the set of groups does not depend on the order in which pods were listed -/
theorem groupsSpec_perm (W W' : List (Str × Str)) (h : W.Perm W') : (groupsSpec W).Perm (groupsSpec W') := by
  unfold groupsSpec
  have : (keysOf W').map (groupFor W) = (keysOf W').map (groupFor W') :=
    List.map_congr_left (fun w _ => groupFor_perm W W' h w)
  rw [← this]
  exact (keysOf_perm W W' h).map _

/-! ### the dry run -/

theorem loopChecked_le (n : Nat) (e : Option Nat) : loopChecked n e ≤ n := by
  unfold loopChecked; split <;> (try split) <;> omega

theorem dryRunEvaluated_length (exRC : List Str) (maxPods : Nat) (pods : List PodObj) (e : Option Nat) :
    (dryRunEvaluated exRC maxPods pods e).length =
      loopChecked (min maxPods (prioritize exRC pods).length) e := by
  simp only [dryRunEvaluated, List.length_take]
  have := loopChecked_le (min maxPods (prioritize exRC pods).length) e
  omega

/-- with no cap hit and no expiry, every non-exempt pod is evaluated -/
theorem dryRunEvaluated_all (exRC : List Str) (maxPods : Nat) (pods : List PodObj)
    (hcap : (prioritize exRC pods).length ≤ maxPods) :
    dryRunEvaluated exRC maxPods pods none = prioritize exRC pods := by
  simp only [dryRunEvaluated, loopChecked]
  rw [List.take_of_length_le hcap, List.take_of_length_le (Nat.le_refl _)]

theorem dryRunViolations_perm (ev : Ev) (lv : LevelVersion) (l l' : List PodObj) (h : l.Perm l') :
    (dryRunViolations ev lv l).Perm (dryRunViolations ev lv l') := h.filterMap _

theorem groupsLoop_perm (W W' : List (Str × Str)) (h : W.Perm W') : (groupsLoop W).Perm (groupsLoop W') := by
  rw [groupsLoop_eq_spec, groupsLoop_eq_spec]; exact groupsSpec_perm W W' h

/-- **Completeness.** The pod lines are: for each distinct aggregate reason text among the evaluated violating pods, one
    line with the lexically first pod name and the exact number of pods, sorted. -/
theorem dryRun_lines (ev : Ev) (exRC : List Str) (maxPods : Nat) (ns : Str) (lv : LevelVersion) (pods : List PodObj)
    (e : Option Nat) :
    (dryRun ev exRC maxPods ns lv pods e).1.filterMap (fun w => match w with | .podLine t => some t | _ => none) =
      sortStrs ((groupsSpec (dryRunViolations ev lv (dryRunEvaluated exRC maxPods pods e))).map decorate) := by
  -- the two optional lines are no pod lines, and `filterMap` undoes `map podLine`
  simp only [dryRun, groupsLoop_eq_spec, List.filterMap_append, List.filterMap_map, apply_ite (List.filterMap _),
    List.filterMap_cons, List.filterMap_nil, ite_self, List.nil_append, Function.comp_def, List.filterMap_some]

/-- the evaluator is called for exactly the evaluated pods, in order, and never more than the cap -/
theorem dryRun_calls (ev : Ev) (exRC : List Str) (maxPods : Nat) (ns : Str) (lv : LevelVersion) (pods : List PodObj)
    (e : Option Nat) :
    (dryRun ev exRC maxPods ns lv pods e).2 = (dryRunEvaluated exRC maxPods pods e).map (fun p => (lv, p.name)) ∧
    (dryRun ev exRC maxPods ns lv pods e).2.length ≤ maxPods ∧
    (dryRunEvaluated exRC maxPods pods e) = (prioritize exRC pods).take (dryRunEvaluated exRC maxPods pods e).length := by
  refine ⟨rfl, ?_, ?_⟩
  · simp only [dryRun, List.length_map, dryRunEvaluated_length]
    have := loopChecked_le (min maxPods (prioritize exRC pods).length) e
    omega
  · simp only [dryRunEvaluated, List.take_take, List.length_take]
    have := loopChecked_le (min maxPods (prioritize exRC pods).length) e
    congr 1
    omega

/-- what is reported depends only on the pods actually evaluated (and on how many there are in total) -/
theorem dryRun_depends_on_evaluated (ev : Ev) (exRC exRC' : List Str) (maxPods maxPods' : Nat) (ns : Str) (lv : LevelVersion)
    (pods pods' : List PodObj) (e e' : Option Nat)
    (h : dryRunEvaluated exRC maxPods pods e = dryRunEvaluated exRC' maxPods' pods' e')
    (ht : (prioritize exRC pods).length = (prioritize exRC' pods').length) :
    dryRun ev exRC maxPods ns lv pods e = dryRun ev exRC' maxPods' ns lv pods' e' := by
  simp only [dryRun, h, ht]

end PSA
