import Psa.Api
/-! Lemmas about level / version parsing and label resolution (used by Props/C05). -/
namespace PSA

/-- `parseLevel` inverts `Level.str`, and answers `(restricted, false)` on every other string -/
theorem parseLevel_cases (s : Str) :
    (∃ l : Level, s = l.str ∧ parseLevel s = (l, true)) ∨ parseLevel s = (.restricted, false) := by
  by_cases h1 : s = b!"privileged"
  · exact .inl ⟨.privileged, h1, by rw [parseLevel, if_pos h1]⟩
  by_cases h2 : s = b!"baseline"
  · exact .inl ⟨.baseline, h2, by rw [parseLevel, if_neg h1, if_pos h2]⟩
  by_cases h3 : s = b!"restricted"
  · exact .inl ⟨.restricted, h3, by rw [parseLevel, if_neg h1, if_neg h2, if_pos h3]⟩
  · exact .inr (by rw [parseLevel, if_neg h1, if_neg h2, if_neg h3])

theorem parseLevel_err (s : Str) (h : (parseLevel s).2 = false) : (parseLevel s).1 = .restricted := by
  rcases parseLevel_cases s with ⟨l, _, he⟩ | he
  · rw [he] at h; cases h
  · rw [he]

theorem ver_str_v1 (n : Nat) : (Ver.mm 1 n).str = b!"v1." ++ itoa n := by
  simp [Ver.str, itoa_digit 1 (by omega)]

theorem v1_prefix (s : Str) : b!"v1.".isPrefixOf s = true ↔ ∃ d, s = b!"v1." ++ d := by
  rw [List.isPrefixOf_iff_prefix]
  exact ⟨fun ⟨t, ht⟩ => ⟨t, ht.symm⟩, fun ⟨d, hd⟩ => ⟨d, hd.symm⟩⟩

theorem latest_not_v1 : b!"v1.".isPrefixOf b!"latest" = false := by decide

theorem parseVersion_v1 (d : Str) :
    parseVersion (b!"v1." ++ d) =
      if canonicalDec d && decide (digitsVal d ≤ maxInt64) then (.mm 1 (digitsVal d), true) else (.latest, false) := by
  have hl : b!"v1." ++ d ≠ b!"latest" := fun h => absurd (List.cons.inj h).1 (by decide)
  rw [parseVersion, if_neg hl, if_pos ((v1_prefix _).mpr ⟨d, rfl⟩)]
  rfl

theorem parseVersion_cases (s : Str) :
    (s = b!"latest" ∧ parseVersion s = (.latest, true)) ∨
    (s ≠ b!"latest" ∧ ∃ d, s = b!"v1." ++ d ∧ canonicalDec d = true ∧ digitsVal d ≤ maxInt64 ∧
        parseVersion s = (.mm 1 (digitsVal d), true)) ∨
    parseVersion s = (.latest, false) := by
  by_cases hl : s = b!"latest"
  · exact .inl ⟨hl, by rw [parseVersion, if_pos hl]⟩
  by_cases hp : b!"v1.".isPrefixOf s = true
  · obtain ⟨d, rfl⟩ := (v1_prefix s).mp hp
    rw [parseVersion_v1]
    split
    · next hc =>
      simp only [Bool.and_eq_true, decide_eq_true_eq] at hc
      exact .inr (.inl ⟨hl, d, rfl, hc.1, hc.2, rfl⟩)
    · exact .inr (.inr rfl)
  · exact .inr (.inr (by rw [parseVersion, if_neg hl, if_neg hp]))

theorem parseVersion_err (s : Str) (h : (parseVersion s).2 = false) : (parseVersion s).1 = .latest := by
  rcases parseVersion_cases s with ⟨_, he⟩ | ⟨_, d, _, _, _, he⟩ | he
  · rw [he]
  · rw [he] at h; cases h
  · rw [he]

theorem parseVersion_of_str_latest : parseVersion Ver.latest.str = (.latest, true) := by decide

/-! ### label resolution -/

/-- the declarative description of the error list: one entry per present-but-unparsable label, in the fixed key order -/
def labelBad (labels : Labels) (k : Str) (isLevel : Bool) : List FieldErr :=
  match labels.get k with
  | none => []
  | some s => if (if isLevel then (parseLevel s).2 else (parseVersion s).2) then [] else [⟨k, s⟩]

def errsSpec (labels : Labels) : List FieldErr :=
  labelBad labels kEnforce true ++ labelBad labels kEnforceV false ++ labelBad labels kAudit true ++
  labelBad labels kAuditV false ++ labelBad labels kWarn true ++ labelBad labels kWarnV false

theorem errOf_level (labels : Labels) (k : Str) :
    errOf k ((labels.get k).map (fun s => (parseLevel s, s))) = labelBad labels k true := by
  unfold labelBad
  cases labels.get k with
  | none => rfl
  | some s => rcases hp : parseLevel s with ⟨l, _ | _⟩ <;> simp [errOf, hp]

theorem errOf_version (labels : Labels) (k : Str) :
    errOf k ((labels.get k).map (fun s => (parseVersion s, s))) = labelBad labels k false := by
  unfold labelBad
  cases labels.get k with
  | none => rfl
  | some s => rcases hp : parseVersion s with ⟨v, _ | _⟩ <;> simp [errOf, hp]

/-- what a level label resolves to when it is used for enforce (fail closed) / audit, warn (fail open) -/
def resolveLevel (closed : Bool) (dflt : Level) : Option Str → Level
  | none => dflt
  | some s => if (parseLevel s).2 then (parseLevel s).1 else if closed then .restricted else .privileged

def resolveVersion (dflt : Ver) : Option Str → Ver
  | none => dflt
  | some s => if (parseVersion s).2 then (parseVersion s).1 else .latest

theorem valOf_level (dflt : Level) (o : Option Str) :
    valOf dflt (o.map (fun s => (parseLevel s, s))) = resolveLevel true dflt o := by
  cases o with
  | none => rfl
  | some s =>
    simp only [Option.map_some, valOf, resolveLevel]
    split
    · rfl
    · next h => exact parseLevel_err s (by simpa using h)

theorem openLevel_level (dflt : Level) (o : Option Str) :
    openLevel dflt (o.map (fun s => (parseLevel s, s))) = resolveLevel false dflt o := by
  cases o with
  | none => rfl
  | some s => rcases hp : parseLevel s with ⟨l, _ | _⟩ <;> simp [openLevel, resolveLevel, hp]

theorem valOf_version (dflt : Ver) (o : Option Str) :
    valOf dflt (o.map (fun s => (parseVersion s, s))) = resolveVersion dflt o := by
  cases o with
  | none => rfl
  | some s =>
    simp only [Option.map_some, valOf, resolveVersion]
    split
    · rfl
    · next h => exact parseVersion_err s (by simpa using h)

/-- warn follows enforce: no warn level label, a *valid* enforce level label, stricter than the default warn level -/
def warnFollows (labels : Labels) (d : Policy) : Bool :=
  (labels.get kWarn).isNone &&
  (match labels.get kEnforce with
   | some s => (parseLevel s).2 && decide (compareLevels (parseLevel s).1 d.warn.level > 0)
   | none => false)

/-- `PolicyToEvaluate`, stated outright -/
def policySpec (labels : Labels) (d : Policy) : Policy :=
  let e : LevelVersion := ⟨resolveLevel true d.enforce.level (labels.get kEnforce), resolveVersion d.enforce.version (labels.get kEnforceV)⟩
  { enforce := e
    audit := ⟨resolveLevel false d.audit.level (labels.get kAudit), resolveVersion d.audit.version (labels.get kAuditV)⟩
    warn :=
      if warnFollows labels d then
        ⟨e.level, if (labels.get kWarnV).isNone then e.version else resolveVersion d.warn.version (labels.get kWarnV)⟩
      else ⟨resolveLevel false d.warn.level (labels.get kWarn), resolveVersion d.warn.version (labels.get kWarnV)⟩ }

/-- fail-closed / fail-open statement -/
theorem enforce_bad_is_restricted (pv) (labels : Labels) (d : Policy) (s : Str)
    (h : labels.get kEnforce = some s) (hbad : (parseLevel s).2 = false) :
    (policyToEvaluate pv labels d).1.enforce.level = .restricted := by
  simp only [policyToEvaluate, h, Option.map_some, valOf]
  exact parseLevel_err s hbad

theorem audit_bad_is_privileged (pv) (labels : Labels) (d : Policy) (s : Str)
    (h : labels.get kAudit = some s) (hbad : (parseLevel s).2 = false) :
    (policyToEvaluate pv labels d).1.audit.level = .privileged := by
  simp only [policyToEvaluate, h, Option.map_some]
  rcases hp : parseLevel s with ⟨l, _ | _⟩
  · rfl
  · rw [hp] at hbad; cases hbad

end PSA
