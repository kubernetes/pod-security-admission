import Psa.Str
namespace PSA

/-- most-significant-first decimal digits (as numbers 0..9). -/
def decDigits (n : Nat) : List Nat :=
  if h : n < 10 then [n] else decDigits (n / 10) ++ [n % 10]
termination_by n
decreasing_by omega

def itoa (n : Nat) : Str := (decDigits n).map (· + 48)

/-- strconv.Itoa / %d on signed integers -/
def itoaInt (i : Int) : Str := if i < 0 then 45 :: itoa i.natAbs else itoa i.natAbs

def isDigit (c : Nat) : Bool := 48 ≤ c && c ≤ 57

/-- value of a digit string, left fold. -/
def digitsVal (ds : List Nat) : Nat := ds.foldl (fun a d => a * 10 + (d - 48)) 0

/-- Go's regexp `([0-9]|[1-9][0-9]*)` anchored: canonical decimal. -/
def canonicalDec (s : Str) : Bool :=
  match s with
  | [] => false
  | [d] => isDigit d
  | d :: ds => isDigit d && d != 48 && ds.all isDigit

theorem isDigit_iff (c : Nat) : isDigit c = true ↔ 48 ≤ c ∧ c ≤ 57 := by simp [isDigit]

theorem canonicalDec_cons (x : Nat) (ds : Str) :
    canonicalDec (x :: ds) = true ↔ isDigit x = true ∧ (x = 48 → ds = []) ∧ ds.all isDigit = true := by
  cases ds <;> simp [canonicalDec, and_assoc]

/-! ### `itoa` by its two equations, and the induction on numbers they give -/

theorem itoa_digit (d : Nat) (h : d < 10) : itoa d = [d + 48] := by
  rw [itoa, decDigits, dif_pos h]; rfl

theorem itoa_snoc (v d : Nat) (hv : 0 < v) (hd : d < 10) : itoa (v * 10 + d) = itoa v ++ [d + 48] := by
  have hdiv : (v * 10 + d) / 10 = v := by omega
  have hmod : (v * 10 + d) % 10 = d := by omega
  rw [itoa, decDigits, dif_neg (by omega), hdiv, hmod, List.map_append]; rfl

theorem dec_induction {motive : Nat → Prop} (digit : ∀ d, d < 10 → motive d)
    (snoc : ∀ v d, 0 < v → d < 10 → motive v → motive (v * 10 + d)) (n : Nat) : motive n := by
  induction n using Nat.strongRecOn with
  | _ n ih =>
    by_cases h : n < 10
    · exact digit n h
    · have := snoc (n / 10) (n % 10) (by omega) (by omega) (ih _ (by omega))
      rwa [Nat.div_add_mod'] at this

/-! ### `itoa` and `digitsVal` are inverse bijections between the numbers and the canonical decimals -/

theorem digitsVal_nil : digitsVal [] = 0 := rfl
theorem digitsVal_single (d : Nat) : digitsVal [d] = d - 48 := by simp [digitsVal]

theorem digitsVal_append (a : List Nat) (d : Nat) :
    digitsVal (a ++ [d]) = digitsVal a * 10 + (d - 48) := by
  simp [digitsVal, List.foldl_append]

theorem digitsVal_itoa (n : Nat) : digitsVal (itoa n) = n := by
  induction n using dec_induction with
  | digit d hd => rw [itoa_digit d hd, digitsVal_single]; omega
  | snoc v d hv hd ih => rw [itoa_snoc v d hv hd, digitsVal_append, ih]; omega

/-- a positive number prints as digits, the first of them not '0' -/
theorem itoa_pos (n : Nat) (h : 0 < n) :
    ∃ x ds, itoa n = x :: ds ∧ isDigit x = true ∧ x ≠ 48 ∧ ds.all isDigit = true := by
  induction n using dec_induction with
  | digit d hd => exact ⟨d + 48, [], itoa_digit d hd, (isDigit_iff _).mpr (by omega), by omega, rfl⟩
  | snoc v d hv hd ih =>
    obtain ⟨x, ds, he, hx, hx0, hds⟩ := ih hv
    refine ⟨x, ds ++ [d + 48], by rw [itoa_snoc v d hv hd, he]; rfl, hx, hx0, ?_⟩
    rw [List.all_append, hds]
    simpa using (isDigit_iff _).mpr (by omega)

theorem canonicalDec_itoa (n : Nat) : canonicalDec (itoa n) = true := by
  cases n with
  | zero => rw [itoa_digit 0 (by omega)]; rfl
  | succ n =>
    obtain ⟨x, ds, he, hx, hx0, hds⟩ := itoa_pos (n + 1) (by omega)
    rw [he, canonicalDec_cons]
    exact ⟨hx, fun h => absurd h hx0, hds⟩

/-- a digit string whose first digit is not '0' has a positive value -/
theorem digitsVal_pos (x : Nat) (ds : Str) (hx : isDigit x = true) (hx0 : x ≠ 48) : 0 < digitsVal (x :: ds) := by
  induction ds using snoc_induction with
  | nil => rw [digitsVal_single]; have := (isDigit_iff x).mp hx; omega
  | snoc ds d ih => rw [← List.cons_append, digitsVal_append]; omega

/-- the regexp's canonical decimals are exactly the strings `itoa` prints -/
theorem itoa_digitsVal (s : Str) (h : canonicalDec s = true) : itoa (digitsVal s) = s := by
  cases s with
  | nil => cases h
  | cons x ds =>
    obtain ⟨hx, h0, hds⟩ := (canonicalDec_cons x ds).mp h
    clear h
    have hx' := (isDigit_iff x).mp hx
    induction ds using snoc_induction with
    | nil => rw [digitsVal_single, itoa_digit _ (by omega), Nat.sub_add_cancel hx'.1]
    | snoc ds d ih =>
      have hx0 : x ≠ 48 := fun e => by simpa using h0 e
      rw [List.all_append, Bool.and_eq_true] at hds
      have hd := (isDigit_iff d).mp (by simpa using hds.2)
      rw [← List.cons_append, digitsVal_append, itoa_snoc _ _ (digitsVal_pos x ds hx hx0) (by omega),
        ih (fun e => absurd e hx0) hds.1, Nat.sub_add_cancel hd.1]

end PSA
