import Psa.Str
namespace PSA

inductive Level | privileged | baseline | restricted deriving DecidableEq, Repr
/-- level field of a registered check: an arbitrary Go string. -/
inductive CLevel | privileged | baseline | restricted | other deriving DecidableEq, Repr

/-- api.Version: `latest`, or major.minor (the zero value `mm 0 0` is "unset"). -/
inductive Ver | latest | mm (major minor : Nat) deriving DecidableEq, Repr

def Ver.unset : Ver := .mm 0 0

/-- (*Version).Older -/
def Ver.older : Ver → Ver → Bool
  | .latest, _ => false
  | .mm _ _, .latest => true
  | .mm a b, .mm c d => if a ≠ c then a < c else b < d

/-- on two `major.minor` versions `Older` is the lexicographic order -/
def nextMinor : Ver → Ver
  | .latest => .latest
  | .mm a b => .mm a (b + 1)

structure Rev (α : Type) where
  min : Ver
  fn : α
  overrides : List Str

structure Check (α : Type) where
  id : Str
  level : CLevel
  revs : List (Rev α)

/-- `for v := lo; v.Older(hi); v = nextMinor(v)`. Total only when both have the same major
    (Go diverges otherwise; excluded by well-formedness: "assumes only 1 major version"). -/
def vrange : Ver → Ver → List Ver
  | .mm a b, .mm c d => if a = c then (List.range' b (d - b)).map (Ver.mm a) else []
  | _, _ => []

abbrev VMap (α : Type) := Ver → Str → Option (Rev α)

def VMap.set (m : VMap α) (v : Ver) (id : Str) (r : Rev α) : VMap α :=
  fun v' id' => if v' = v ∧ id' = id then some r else m v' id'

def fill (id : Str) (r : Rev α) (vs : List Ver) (m : VMap α) : VMap α :=
  vs.foldl (fun m v => m.set v id r) m

/-- inflateVersions -/
def inflate (id : Str) (maxV : Ver) : List (Rev α) → VMap α → VMap α
  | [], m => m
  | [r], m => fill id r (vrange r.min (nextMinor maxV)) m
  | r :: r' :: rest, m => inflate id maxV (r' :: rest) (fill id r (vrange r.min r'.min) m)

def Ver.minor : Ver → Nat | .latest => 0 | .mm _ b => b

structure Registry (α : Type) where
  baseline : Ver → List α
  restricted : Ver → List α
  maxVersion : Ver

/-- `c.Versions[len(c.Versions)-1].MinimumVersion` (validated non-empty) -/
def Check.lastMin (c : Check α) : Ver := match c.revs.getLast? with | some r => r.min | none => .unset

def maxVersionOf (cs : List (Check α)) : Ver :=
  cs.foldl (fun m c => if m.older c.lastMin then c.lastMin else m) .unset

def inflateAll (cs : List (Check α)) (maxV : Ver) : VMap α :=
  cs.foldl (fun m c => inflate c.id maxV c.revs m) (fun _ _ => none)

/-- insertion sort by Go's `<` on check ids -/
def insertId (x : Str) : List Str → List Str
  | [] => [x]
  | y :: ys => if x < y then x :: y :: ys else y :: insertId x ys
def sortIds (l : List Str) : List Str := l.foldr insertId []

/-- mapCheckPodFns -/
def mapFns (m : Str → Option (Rev α)) (ordered : List Str) : List α :=
  ordered.filterMap (fun id => (m id).map (·.fn))

def overridesOf (r : Option (Rev α)) : List Str := match r with | some r => r.overrides | none => []

/-- entry of `restrictedVersionedChecks[v]` after the baseline entries were merged in -/
def pickRestricted (b : Option (Rev α)) (overridden : Bool) (r : Option (Rev α)) : Option (Rev α) :=
  match b with
  | some c => if overridden then r else some c
  | none => r

def populate (cs : List (Check α)) : Registry α :=
  let maxV := maxVersionOf cs
  let rcs := cs.filter (fun c => c.level == .restricted)
  let bcs := cs.filter (fun c => !(c.level == .restricted))
  let rmap := inflateAll rcs maxV
  let bmap := inflateAll bcs maxV
  let rids := sortIds (rcs.map (·.id))
  let bids := sortIds (bcs.map (·.id))
  let ordered := bids ++ rids
  let vs := vrange (.mm 1 0) (nextMinor maxV)
  let overrides (v : Ver) : List Str :=
    rids.flatMap (fun id => overridesOf (rmap v id))
  let rfull (v : Ver) (id : Str) : Option (Rev α) :=
    pickRestricted (bmap v id) ((overrides v).contains id) (rmap v id)
  { baseline := fun v => if v ∈ vs then mapFns (bmap v) ordered else []
    restricted := fun v => if v ∈ vs then mapFns (rfull v) ordered else []
    maxVersion := maxV }

def Registry.evaluate (r : Registry α) (l : Level) (v : Ver) : List α :=
  let v' := if r.maxVersion.older v then r.maxVersion else v
  match l with
  | .privileged => []
  | .baseline => r.baseline v'
  | .restricted => r.restricted v'

/-- validateChecks: `true` = accepted -/
def validateChecks (cs : List (Check α)) : Bool :=
  let rec revsOk (prev : Ver) : List (Rev α) → Bool
    | [] => true
    | r :: rs => r.min != .unset && r.min != .latest && prev != r.min && prev.older r.min && revsOk r.min rs
  let rec pass1 (seen : List Str) : List (Check α) → Bool
    | [] => true
    | c :: rest =>
      !seen.contains c.id && (c.level == .baseline || c.level == .restricted) && !c.revs.isEmpty &&
      revsOk .unset c.revs && pass1 (c.id :: seen) rest
  let levelOf (id : Str) : Option CLevel := (cs.find? (fun c => c.id == id)).map (·.level)
  let pass2 := cs.all (fun c => c.revs.all (fun r =>
    r.overrides.isEmpty ||
      (c.level == .restricted && r.overrides.all (fun o => match levelOf o with | some l => l == .baseline | none => true))))
  pass1 [] cs && pass2

end PSA
