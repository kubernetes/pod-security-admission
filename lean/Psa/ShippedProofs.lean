import Psa.Shipped
import Psa.RegistryProofs
import Psa.StdEval
namespace PSA

theorem shipped_wf : WellFormed shipped where
  ids := by decide +kernel
  levels := by decide +kernel
  nonempty := by decide +kernel
  major := by decide +kernel
  increasing := by decide +kernel
  overrides := by decide +kernel

theorem shipped_max : maxVersionOf shipped = .mm 1 32 := by decide +kernel

theorem spec_baseline_table : ∀ V, V ≤ 32 → spec shipped .baseline V = activeBaseline V := by decide +kernel
theorem spec_restricted_table : ∀ V, V ≤ 32 → spec shipped .restricted V = activeRestricted V := by decide +kernel

/-- the registry built from the shipped checks runs, at every level and requestable version, the revisions the Standard has in
    force there -/
theorem shipped_evaluate (l : Level) (v : Ver) (hv : v = .latest ∨ ∃ n, v = .mm 1 n) :
    (populate shipped).evaluate l v = stdRevs l v := by
  rw [C04_resolves shipped shipped_wf l v hv, shipped_max]
  cases l with
  | privileged => rfl
  | baseline => exact spec_baseline_table _ (clampV_le 32 v)
  | restricted => exact spec_restricted_table _ (clampV_le 32 v)

end PSA
