import Psa.QuoteShapes
/-! The name part of `Clean` follows from the pod: container and volume names without a quote byte (DNS labels have none) give
    offender lists without one, for all twenty-five revisions. -/
namespace PSA

def PodNamesClean (p : Pod) : Prop := (∀ c ∈ p.visit, noQ c.name) ∧ (∀ v ∈ p.volumes, noQ v.name)

structure NamesOK (o : CheckOut) : Prop where
  cs : ∀ x ∈ o.containers, noQ x
  cs2 : ∀ x ∈ o.containers2, noQ x
  vols : ∀ x ∈ o.volumes, noQ x

theorem nil_clean : ∀ x ∈ ([] : List Str), noQ x := nofun

theorem namesOK_ok : NamesOK CheckOut.ok := ⟨nil_clean, nil_clean, nil_clean⟩

theorem namesOK_mk (pod : Bool) (cs cs2 vols values flags extra : List Str)
    (h1 : ∀ x ∈ cs, noQ x) (h2 : ∀ x ∈ cs2, noQ x) (h3 : ∀ x ∈ vols, noQ x) : NamesOK (mk pod cs cs2 vols values flags extra) := by
  unfold mk
  split
  · exact ⟨h1, h2, h3⟩
  · exact namesOK_ok

theorem namesOK_ite (c : Prop) [Decidable c] {a b : CheckOut} (ha : NamesOK a) (hb : NamesOK b) :
    NamesOK (if c then a else b) := by
  split <;> assumption

/-- the bytes of a DNS label / subdomain (what API validation lets a container or volume name consist of) -/
def dnsByte (c : Nat) : Bool := (97 ≤ c && c ≤ 122) || (48 ≤ c && c ≤ 57) || c == 45 || c == 46

theorem dns_noQ (s : Str) (h : ∀ c ∈ s, dnsByte c = true) : noQ s :=
  fun hq => absurd (h 34 hq) (by decide)

end PSA
