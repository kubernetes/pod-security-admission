import Psa.Setup
/-! What the configuration loader, the validator and the controller's set-up (`Psa/Config.lean`, `Psa/Setup.lean`) accept,
    and what they return when they do. -/
namespace PSA.Config
open PSA

theorem keysNodup_iff (l : List Str) : keysNodup l = true ↔ l.Nodup := by
  induction l with
  | nil => simp [keysNodup]
  | cons a t ih => simp [keysNodup, ih]

theorem strictKeys_eq_false_iff {α} (known : List Str) (fs : List (Str × α)) :
    strictKeys known fs = false ↔ (∃ f ∈ fs, f.1 ∉ known) ∨ ¬ (fs.map (·.1)).Nodup := by
  simp only [strictKeys, Bool.and_eq_false_iff, List.all_eq_false, List.contains_iff_mem, ← keysNodup_iff, Bool.not_eq_true]

theorem versionOf_eq_some (av v : Str) : versionOf av = some v ↔ av = group ++ b!"/" ++ v := by
  have hd : ∀ t, (group ++ b!"/" ++ t).drop (group.length + 1) = t := fun t => List.drop_left' (by simp)
  unfold versionOf
  constructor
  · intro h
    split at h
    · next hp =>
      obtain ⟨t, rfl⟩ := List.isPrefixOf_iff_prefix.mp hp
      rw [hd, Option.some.injEq] at h
      rw [h]
    · cases h
  · rintro rfl
    rw [if_pos (List.isPrefixOf_iff_prefix.mpr ⟨v, rfl⟩), hd]

theorem loadDoc_eq_some_iff (d : Doc) (c : Cfg) :
    loadDoc d = some c ↔
      strictKeys topKeys d = true ∧ lookup d b!"kind" = some (.str kindName) ∧
      (∃ v ∈ servedVersions, lookup d b!"apiVersion" = some (.str (group ++ b!"/" ++ v))) ∧
      ∃ ds, decodeDefaults (lookup d b!"defaults") = some ds ∧
        ∃ es, decodeExemptions (lookup d b!"exemptions") = some es ∧ (⟨setDefaults ds, es⟩ : Cfg) = c := by
  unfold loadDoc
  repeat' split
  all_goals simp_all [Option.eq_none_iff_forall_ne_some, versionOf_eq_some, Option.bind_eq_some_iff]

/-! ### validation -/

theorem validateList_go_eq_nil (path : Str) (ok : Str → Bool) (l : List Str) (i : Nat) (seen : List Str) :
    validateList.go path ok i seen l = [] ↔ (∀ x ∈ l, ok x = true ∧ x ∉ seen) ∧ l.Nodup := by
  induction l generalizing i seen with
  | nil => simp [validateList.go]
  | cons x rest ih =>
    simp only [validateList.go, List.forall_mem_cons, List.nodup_cons, List.contains_iff_mem]
    cases ok x
    · simp
    · by_cases hs : x ∈ seen
      · simp [hs]
      · simp only [Bool.not_true, Bool.false_eq_true, hs, ↓reduceIte, ih, List.mem_cons, not_or, not_false_eq_true, and_self, true_and]
        constructor
        · rintro ⟨h, hn⟩
          exact ⟨fun y hy => ⟨(h y hy).1, (h y hy).2.2⟩, fun hx => (h x hx).2.1 rfl, hn⟩
        · rintro ⟨h, hx, hn⟩
          exact ⟨fun y hy => ⟨(h y hy).1, fun e => hx (e ▸ hy), (h y hy).2⟩, hn⟩

theorem validateList_eq_nil (path : Str) (ok : Str → Bool) (l : List Str) :
    validateList path ok l = [] ↔ (∀ x ∈ l, ok x = true) ∧ l.Nodup := by
  simp [validateList, validateList_go_eq_nil]

theorem vLevel_eq_nil (path s : Str) : vLevel path s = [] ↔ (parseLevel s).2 = true := by
  unfold vLevel; split <;> simp [*]

theorem vVersion_eq_nil (path s : Str) : vVersion path s = [] ↔ (parseVersion s).2 = true := by
  unfold vVersion; split <;> simp [*]

/-- `ToPolicy` refuses an empty field before it parses; the empty string parses as neither a level nor a version, so the
    six fields parsing is all it takes. -/
theorem toPolicy_of_parse (d : Defaults)
    (h : (parseLevel d.enforce).2 = true ∧ (parseVersion d.enforceVersion).2 = true ∧
      (parseLevel d.warn).2 = true ∧ (parseVersion d.warnVersion).2 = true ∧
      (parseLevel d.audit).2 = true ∧ (parseVersion d.auditVersion).2 = true) :
    toPolicy d = some ⟨⟨(parseLevel d.enforce).1, (parseVersion d.enforceVersion).1⟩,
      ⟨(parseLevel d.audit).1, (parseVersion d.auditVersion).1⟩, ⟨(parseLevel d.warn).1, (parseVersion d.warnVersion).1⟩⟩ := by
  have ne : ∀ s : Str, (parseLevel s).2 = true ∨ (parseVersion s).2 = true → s.isEmpty = false := by
    rintro (_ | _) h
    · revert h; decide
    · rfl
  obtain ⟨h1, h2, h3, h4, h5, h6⟩ := h
  simp [toPolicy, ne _ (.inl h1), ne _ (.inr h2), ne _ (.inl h3), ne _ (.inr h4), ne _ (.inl h5), ne _ (.inr h6), h1, h2, h3, h4, h5, h6]

end PSA.Config

namespace PSA.Setup
open PSA PSA.Config

theorem limits_ne_zero : Generated.namespaceMaxPodsToCheck ≠ 0 ∧ Generated.namespacePodCheckTimeoutNs ≠ 0 := by decide

theorem complete_fresh_eq_ok_iff (cfg : Cfg) (c : Ctl) :
    complete (fresh cfg) = .ok c ↔ ∃ p, toPolicy cfg.defaults = some p ∧
      c = { fresh cfg with defaultPolicy := some p, maxPods := Generated.namespaceMaxPodsToCheck,
                           timeoutNs := Generated.namespacePodCheckTimeoutNs } := by
  simp only [complete, fresh]
  cases toPolicy cfg.defaults <;> simp [eq_comm]

theorem validateCtl_eq_none_iff (c : Ctl) :
    validateCtl c = none ↔ ∃ cfg p, c.cfg = some cfg ∧ validate cfg = [] ∧ toPolicy cfg.defaults = some p ∧
      c.defaultPolicy = some p ∧ c.maxPods ≠ 0 ∧ c.timeoutNs ≠ 0 ∧ c.metrics = true ∧ c.extractor = true ∧
      c.evaluator = true ∧ c.getter = true ∧ c.lister = true := by
  have step (a : Prop) [Decidable a] (e : Err) (r : Option Err) : (if a then some e else r) = none ↔ ¬ a ∧ r = none :=
    ite_iff_of_not (· = none) r nofun
  unfold validateCtl
  cases c.cfg with
  | none => simp
  | some cfg =>
    cases hp : toPolicy cfg.defaults <;> simp only [hp, step] <;> simp [hp, and_assoc, @eq_comm _ c.defaultPolicy]

/-- A controller built with every dependency is completed and validated without error exactly when its configuration
    validates, and then it is the fresh one with the stated policy and the two limits filled in. -/
theorem complete_validate_fresh_iff (cfg : Cfg) (c : Ctl) :
    complete (fresh cfg) = .ok c ∧ validateCtl c = none ↔ validate cfg = [] ∧ ∃ p, toPolicy cfg.defaults = some p ∧
      c = { fresh cfg with defaultPolicy := some p, maxPods := Generated.namespaceMaxPodsToCheck,
                           timeoutNs := Generated.namespacePodCheckTimeoutNs } := by
  rw [complete_fresh_eq_ok_iff]
  constructor
  · rintro ⟨⟨p, hp, rfl⟩, hv⟩
    obtain ⟨_, _, hcfg, hval, -⟩ := (validateCtl_eq_none_iff _).mp hv
    cases hcfg
    exact ⟨hval, p, hp, rfl⟩
  · rintro ⟨hval, p, hp, rfl⟩
    exact ⟨⟨p, hp, rfl⟩, (validateCtl_eq_none_iff _).mpr
      ⟨cfg, p, rfl, hval, hp, rfl, limits_ne_zero.1, limits_ne_zero.2, rfl, rfl, rfl, rfl, rfl⟩⟩

/-- `setup` on a document that loads: the conversion to a policy is tried first (by `complete`), validation after -/
theorem setup_of_load {d : Option Doc} {cfg : Cfg} (hl : load d = some cfg) :
    setup d = match toPolicy cfg.defaults with
      | none => .setupError .toPolicy
      | some p => if validate cfg = [] then .serving p cfg.exemptions else .setupError .invalid := by
  simp only [setup, hl, complete, fresh]
  cases hp : toPolicy cfg.defaults with
  | none => rfl
  | some p => by_cases h : validate cfg = [] <;> simp [validateCtl, h, hp, limits_ne_zero]

end PSA.Setup
