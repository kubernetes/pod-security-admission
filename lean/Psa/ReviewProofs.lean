import Psa.Review
/-! The decoder of `Psa/Review.lean` stage by stage: group/version parsing, defaulting, kind detection, status. -/
namespace PSA.Review
open PSA

/-- left inverse of `splitSlash`, so that the list of segments determines the string -/
def joinSlash : List Str → Str
  | [] => []
  | [x] => x
  | x :: y :: r => x ++ 47 :: joinSlash (y :: r)

theorem splitSlash_ne_nil (s : Str) : splitSlash s ≠ [] := by
  cases s with
  | nil => simp [splitSlash]
  | cons c rest =>
    unfold splitSlash
    split
    · simp
    · split <;> simp

theorem joinSlash_splitSlash (s : Str) : joinSlash (splitSlash s) = s := by
  induction s with
  | nil => rfl
  | cons c rest ih =>
    unfold splitSlash
    split
    · next h => exact absurd h (splitSlash_ne_nil rest)
    · next seg segs h =>
      rw [h] at ih
      split
      · next hc => rw [hc, ← ih]; rfl
      · cases segs <;> rw [← ih] <;> rfl

/-- `ParseGroupVersion` read backwards: a lone version, or group and version around the one slash -/
theorem parseGV_eq_some {s g v : Str} (h : parseGV s = some (g, v)) : g = [] ∧ s = v ∨ s = g ++ 47 :: v := by
  -- each shape of the segment list, put into `hj`, says what `s` is
  have hj := joinSlash_splitSlash s
  unfold parseGV at h
  split at h
  · next h0 =>
    cases h
    exact h0.imp (⟨rfl, ·⟩) id
  · split at h <;> simp_all [joinSlash]

theorem withDefaults_eq (g v k : Str) : withDefaults g v k =
    (if v = [] ∧ g = [] then dGroup else g,
     if (if v = [] ∧ g = [] then dVersion else v) = [] ∧ (if v = [] ∧ g = [] then dGroup else g) = dGroup then dVersion
     else (if v = [] ∧ g = [] then dVersion else v),
     if k = [] then dKind else k) := rfl

theorem withDefaults_eq_target_iff (g v k : Str) :
    withDefaults g v k = (dGroup, dVersion, dKind) ↔
      (k = [] ∨ k = dKind) ∧ ((g = [] ∧ v = []) ∨ (g = dGroup ∧ (v = [] ∨ v = dVersion))) := by
  have dg : dGroup ≠ [] := by decide
  have dv : dVersion ≠ [] := by decide
  simp only [withDefaults_eq, Prod.mk.injEq]
  grind

/-- which apiVersion / kind strings are detected as the v1 AdmissionReview -/
theorem detect_iff (av k : Str) :
    (∃ gv, parseGV av = some gv ∧ withDefaults gv.1 gv.2 k = (dGroup, dVersion, dKind)) ↔ apiVersionOK av ∧ kindOK k := by
  simp only [withDefaults_eq_target_iff]
  constructor
  · rintro ⟨⟨g, v⟩, hp, hk, hgv⟩
    refine ⟨?_, hk⟩
    unfold apiVersionOK
    -- the three defaulting cases against the two parses: an accepted spelling each time, or the default group empty
    rcases hgv with ⟨rfl, rfl⟩ | ⟨rfl, rfl | rfl⟩ <;> rcases parseGV_eq_some hp with ⟨hg, rfl⟩ | rfl <;>
      first | decide | cases hg
  · rintro ⟨hav, hk⟩
    rcases hav with h | h | h | h <;> subst h
    · exact ⟨([], []), by decide, hk, Or.inl ⟨rfl, rfl⟩⟩
    · exact ⟨([], []), by decide, hk, Or.inl ⟨rfl, rfl⟩⟩
    · exact ⟨(dGroup, dVersion), by decide, hk, Or.inr ⟨rfl, Or.inr rfl⟩⟩
    · exact ⟨(dGroup, []), by decide, hk, Or.inr ⟨rfl, Or.inl rfl⟩⟩

theorem detectKind_target_iff (doc : Top) :
    detectKind doc = some (dGroup, dVersion, dKind) ↔
      ∃ av k, interpretField b!"apiVersion" doc [] = some av ∧ interpretField b!"kind" doc [] = some k ∧
        apiVersionOK av ∧ kindOK k := by
  unfold detectKind
  cases interpretField b!"apiVersion" doc [] with
  | none => simp
  | some av =>
    cases interpretField b!"kind" doc [] with
    | none => simp
    | some k =>
      simp only [Option.some.injEq, exists_and_left, exists_eq_left', ← detect_iff av k]
      cases parseGV av with
      | none => simp
      | some gv =>
        by_cases hv : (withDefaults gv.1 gv.2 k).2.1 = []
        · -- "version not set" cannot be the target, whose version is `v1`
          have : withDefaults gv.1 gv.2 k ≠ (dGroup, dVersion, dKind) := fun e => by rw [e] at hv; cases hv
          simp [hv, this]
        · simp [hv]

/-- `status` in one test -/
theorem status_eq (doc : Top) : status doc =
    if detectKind doc = some (dGroup, dVersion, dKind) ∧ typeError doc = false ∧ hasRequest doc = true then 200 else 400 := by
  unfold status
  cases detectKind doc with
  | none => simp
  | some gvk => by_cases hg : gvk = (dGroup, dVersion, dKind) <;> cases typeError doc <;> cases hasRequest doc <;> simp [hg]

end PSA.Review
