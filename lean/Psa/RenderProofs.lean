import Psa.Render
import Psa.ShippedProofs
/-! Facts about the rendered messages (used by Props/C13). -/
namespace PSA

/-- a reason text with the number taken off: the AppArmor plural becomes the singular, every other text is its own key -/
def keyOf (s : Str) : Str := if s = b!"forbidden AppArmor profiles" then b!"forbidden AppArmor profile" else s

/-- one key per control family: the three seccomp revisions share theirs -/
def Kind.reasonKey : Kind → Str
  | .appArmor => b!"forbidden AppArmor profile"
  | k => k.reason CheckOut.ok

/-- The key is a function of the reason text alone, whatever the result it was rendered from. -/
theorem keyOf_reason (k : Kind) (o : CheckOut) : keyOf (k.reason o) = k.reasonKey := by
  cases k
  case appArmor => simp only [Kind.reason, pluralize]; split <;> rfl
  all_goals rfl

theorem reason_key (k k' : Kind) (o o' : CheckOut) (h : k.reason o = k'.reason o') : k.reasonKey = k'.reasonKey := by
  rw [← keyOf_reason k o, ← keyOf_reason k' o', h]

theorem reason_specific (k : Kind) (o : CheckOut) : k.reason o ≠ [] ∧ k.reason o ≠ unknownReason := by
  cases k <;> simp only [Kind.reason, pluralize]
  case appArmor => split <;> decide
  all_goals decide

theorem render_denied (k : Kind) (o : CheckOut) (h : (render k o).allowed = false) :
    render k o = { allowed := false, reason := k.reason o, detail := k.detail o } := by
  unfold render at h ⊢
  split <;> simp_all

theorem runRev_reason (T : Tables) (relax : Bool) (r : RevId) (p : Pod) (h : (runRev T relax r p).allowed = false) :
    (runRev T relax r p).reason = r.kind.reason (run T relax r p) := by
  rw [runRev, render_denied _ _ h]

theorem runRev_detail (T : Tables) (relax : Bool) (r : RevId) (p : Pod) (h : (runRev T relax r p).allowed = false) :
    (runRev T relax r p).detail = r.kind.detail (run T relax r p) := by
  rw [runRev, render_denied _ _ h]

/-- co-active revisions never share a reason key (the seccomp baseline / restricted revisions are never active together) -/
theorem active_keys_nodup : ∀ V, V ≤ 32 →
    ((activeBaseline V).map (fun r => r.kind.reasonKey)).Nodup ∧
    ((activeRestricted V).map (fun r => r.kind.reasonKey)).Nodup := by
  decide +kernel

theorem shipped_keys_nodup (V : Nat) (hV : V ≤ 32) (l : Level) : ((spec shipped l V).map (fun r => r.kind.reasonKey)).Nodup := by
  cases l with
  | privileged => exact List.nodup_nil
  | baseline => rw [spec_baseline_table V hV]; exact (active_keys_nodup V hV).1
  | restricted => rw [spec_restricted_table V hV]; exact (active_keys_nodup V hV).2

end PSA
