import Psa.AdmitCases
namespace PSA

section
theorem mem_distinctInOrder (l : List LevelVersion) (a : LevelVersion) : a ∈ distinctInOrder l ↔ a ∈ l := by
  simpa [distinctInOrder] using mem_foldl_firsts id l [] a

variable {P : Type}

/-! ### EvaluatePod without the cache -/

theorem cacheGet_nil (lv : LevelVersion) : cacheGet [] lv = none := rfl

theorem cacheGet_cons (k : LevelVersion) (v : Agg) (c : Cache) (lv : LevelVersion) :
    cacheGet ((k, v) :: c) lv = if lv = k then some v else cacheGet c lv := by
  by_cases h : lv = k
  · subst h; simp [cacheGet]
  · simp [cacheGet, h, Ne.symm h]

theorem evaluatePod_exempt (ev : Evaluator P) (cfg : Config) (pol : Policy) (polErr : Bool) (pv : PodView P) (enf : Bool)
    (hrc : exemptRC pv.runtimeClass cfg.exRuntimeClasses = true) :
    evaluatePod ev cfg pol polErr pv enf =
      { resp := { allowed := true, annExempt := some b!"runtimeClass" }, metrics := [.exemption] } := by
  simp only [evaluatePod, hrc, ↓reduceIte]

/-- **The cache is transparent and saves exactly the repeated evaluations.** Past the exemption test, the outcome is a function
    of the three policies' own aggregated results `E`, `A`, `W`, and the evaluator is called once per *distinct* policy among
    enforce (when enforcing), audit, and warn (unless denied), in that order — never twice for the same level:version. -/
theorem evaluatePod_eq (ev : Evaluator P) (cfg : Config) (pol : Policy) (polErr : Bool) (pv : PodView P) (enf : Bool)
    (hrc : exemptRC pv.runtimeClass cfg.exRuntimeClasses = false) :
    evaluatePod ev cfg pol polErr pv enf =
      let E := aggregate (ev pol.enforce pv.pod)
      let A := aggregate (ev pol.audit pv.pod)
      let W := aggregate (ev pol.warn pv.pod)
      let denied := enf && !E.allowed
      { resp :=
          { allowed := !denied
            code := if denied then 403 else 0
            reason := if denied then b!"Forbidden" else []
            enforcedLV := if denied then some pol.enforce else none
            details := if denied then some E else none
            warnings := if !denied && !W.allowed then [(pol.warn, W)] else []
            annError := polErr
            annEnforce := if enf then some pol.enforce else none
            annAudit := if A.allowed then none else some (pol.audit, A) }
        metrics := (if polErr then [.error false] else []) ++ (if enf then [.eval E.allowed pol.enforce 0] else []) ++
          (if A.allowed then [] else [.eval false pol.audit 1]) ++
          (if !denied && !W.allowed then [.eval false pol.warn 2] else [])
        evalCalls := distinctInOrder
          ((if enf then [pol.enforce] else []) ++ [pol.audit] ++ (if !denied then [pol.warn] else [])) } := by
  obtain ⟨e, a, w⟩ := pol
  unfold evaluatePod
  simp only [hrc, Bool.false_eq_true, ↓reduceIte]
  -- a later policy finds an earlier one's result in the cache exactly when the two are equal, and the cached result is
  -- then its own; the verdicts `E`, `W` are split because the definition branches on them inside tuples
  cases enf
  · cases hW : (aggregate (ev w pv.pod)).allowed <;> by_cases h3 : w = a <;>
      simp_all [cacheGet_nil, cacheGet_cons, distinctInOrder]
  · cases hE : (aggregate (ev e pv.pod)).allowed
    · by_cases h1 : a = e <;> simp_all [cacheGet_nil, cacheGet_cons, distinctInOrder]
    · cases hW : (aggregate (ev w pv.pod)).allowed <;> by_cases h1 : a = e <;> by_cases h2 : w = e <;>
        by_cases h3 : w = a <;> simp_all [cacheGet_nil, cacheGet_cons, distinctInOrder]

/-! ### C08 on this model -/

theorem C08_nonblocking (ev : Evaluator P) (cfg : Config) (p p' : Policy) (e : Bool) (pv : PodView P) (enf : Bool)
    (h : p.enforce = p'.enforce) :
    (evaluatePod ev cfg p e pv enf).resp.allowed = (evaluatePod ev cfg p' e pv enf).resp.allowed := by
  cases hrc : exemptRC pv.runtimeClass cfg.exRuntimeClasses
  · rw [evaluatePod_eq _ _ _ _ _ _ hrc, evaluatePod_eq _ _ _ _ _ _ hrc, h]
  · rw [evaluatePod_exempt _ _ _ _ _ _ hrc, evaluatePod_exempt _ _ _ _ _ _ hrc]

theorem C08_audit (ev : Evaluator P) (cfg : Config) (p : Policy) (e : Bool) (pv : PodView P) (enf : Bool)
    (hrc : exemptRC pv.runtimeClass cfg.exRuntimeClasses = false) :
    (evaluatePod ev cfg p e pv enf).resp.annAudit =
      (if (aggregate (ev p.audit pv.pod)).allowed then none else some (p.audit, aggregate (ev p.audit pv.pod))) := by
  rw [evaluatePod_eq _ _ _ _ _ _ hrc]

theorem C08_warn (ev : Evaluator P) (cfg : Config) (p : Policy) (e : Bool) (pv : PodView P) (enf : Bool)
    (hrc : exemptRC pv.runtimeClass cfg.exRuntimeClasses = false) :
    (evaluatePod ev cfg p e pv enf).resp.warnings =
      (if (evaluatePod ev cfg p e pv enf).resp.allowed ∧ ¬ (aggregate (ev p.warn pv.pod)).allowed
       then [(p.warn, aggregate (ev p.warn pv.pod))] else []) := by
  simp [evaluatePod_eq _ _ _ _ _ _ hrc]

end

variable (pv : Str → Ver × Bool) (cfg : Config) (w : World Ev) (r : Request)

/-- what "the request was evaluated against the enforce policy and passed" means -/
def enforcedOK (ev : Ev) (pol : Policy) (p : PodObj) : Prop := (aggregate (ev pol.enforce p)).allowed = true

/-! ### `evaluateObj` without the cache (`evaluatePod_exempt`, `evaluatePod_eq` on a `PodObj`) -/

theorem evaluateObj_exempt_eq (ev : Ev) (pol : Policy) (e : Bool) (p : PodObj) (enf : Bool)
    (h : exemptRC p.runtimeClass cfg.exRuntimeClasses = true) :
    evaluateObj ev cfg pol e p enf = ({ allowed := true, annExempt := some b!"runtimeClass" }, { metrics := [.exemption] }) := by
  rw [evaluateObj, evaluatePod_exempt _ _ _ _ ⟨p, p.runtimeClass⟩ _ h]; rfl

theorem evaluateObj_eq (ev : Ev) (pol : Policy) (e : Bool) (p : PodObj) (enf : Bool)
    (hrc : exemptRC p.runtimeClass cfg.exRuntimeClasses = false) :
    evaluateObj ev cfg pol e p enf =
      let E := aggregate (ev pol.enforce p)
      let A := aggregate (ev pol.audit p)
      let W := aggregate (ev pol.warn p)
      let denied := enf && !E.allowed
      ({ allowed := !denied
         code := if denied then 403 else 0
         enforcedLV := if denied then some pol.enforce else none
         details := if denied then some E else none
         warnings := if !denied && !W.allowed then [.policy pol.warn W] else []
         annError := e
         annEnforce := if enf then some pol.enforce else none
         annAudit := if A.allowed then none else some (pol.audit, A) },
       { metrics := (if e then [.error false] else []) ++ (if enf then [.eval E.allowed pol.enforce 0] else []) ++
           (if A.allowed then [] else [.eval false pol.audit 1]) ++
           (if !denied && !W.allowed then [.eval false pol.warn 2] else [])
         evalCalls := (distinctInOrder
           ((if enf then [pol.enforce] else []) ++ [pol.audit] ++ (if !denied then [pol.warn] else []))).map (fun lv => (lv, p.name)) }) := by
  rw [evaluateObj, evaluatePod_eq _ _ _ _ ⟨p, p.runtimeClass⟩ _ hrc]
  simp only [apply_ite (List.map _), List.map_cons, List.map_nil]

theorem evaluateObj_allowed (ev : Ev) (pol : Policy) (e : Bool) (p : PodObj)
    (hrc : exemptRC p.runtimeClass cfg.exRuntimeClasses = false) :
    (evaluateObj ev cfg pol e p true).1.allowed = (aggregate (ev pol.enforce p)).allowed := by
  simp [evaluateObj_eq cfg ev pol e p true hrc]

theorem evaluateObj_advisory (ev : Ev) (pol : Policy) (e : Bool) (p : PodObj) :
    (evaluateObj ev cfg pol e p false).1.allowed = true ∧ (evaluateObj ev cfg pol e p false).1.code = 0 ∧
    (evaluateObj ev cfg pol e p false).1.annEnforce = none ∧ (evaluateObj ev cfg pol e p false).1.details = none := by
  cases hrc : exemptRC p.runtimeClass cfg.exRuntimeClasses
  · rw [evaluateObj_eq cfg ev pol e p false hrc]; exact ⟨rfl, rfl, rfl, rfl⟩
  · rw [evaluateObj_exempt_eq cfg ev pol e p false hrc]; exact ⟨rfl, rfl, rfl, rfl⟩

/-- with enforce = true the evaluator is called with the enforce policy -/
theorem evaluateObj_calls_enforce (ev : Ev) (pol : Policy) (e : Bool) (p : PodObj)
    (hrc : exemptRC p.runtimeClass cfg.exRuntimeClasses = false) :
    pol.enforce ∈ (evaluateObj ev cfg pol e p true).2.evalCalls.map (·.1) := by
  simp [evaluateObj_eq cfg ev pol e p true hrc, mem_distinctInOrder]

theorem validateController_allowed :
    (validateController pv cfg w r).1.allowed = true ∧ (validateController pv cfg w r).1.code = 0 := by
  have ho := validateController_outcome pv cfg w r
  generalize validateController pv cfg w r = out at ho ⊢
  cases ho with
  | evaluated => exact ⟨(evaluateObj_advisory ..).1, (evaluateObj_advisory ..).2.1⟩
  | _ => exact ⟨rfl, rfl⟩

/-- C09: a pod-controller request is never denied -/
theorem C09_allowed : (validateController pv cfg w r).1.allowed = true := (validateController_allowed pv cfg w r).1

/-- C07 (pods): whatever fails, a pod request is only ever allowed for one of these reasons -/
theorem C07_pod_closed (h : (validatePod pv cfg w r).1.allowed = true) :
    ignoredSubresources.contains r.sub = true ∨ exempt r.ns cfg.exNamespaces = true ∨ exempt r.user cfg.exUsers = true ∨
    ∃ labels, w.getNs = .ok labels ∧
      let pe := policyToEvaluate pv labels cfg.defaults
      ((pe.2.isEmpty = true ∧ pe.1.fullyPrivileged = true) ∨
       ∃ p, r.obj = .ok (.pod p) ∧
         ((r.op = .update ∧ ∃ q, r.old = .ok (.pod q) ∧ isSignificant p.pod q.pod = false) ∨
          exemptRC p.runtimeClass cfg.exRuntimeClasses = true ∨
          enforcedOK w.ev pe.1 p)) := by
  have ho := validatePod_outcome pv cfg w r
  generalize validatePod pv cfg w r = out at ho h
  cases ho with
  | ignored h0 => exact .inl h0
  | exemptNs h1 => exact .inr (.inl h1)
  | exemptUser h2 => exact .inr (.inr (.inl h2))
  | nsErr | badObject | badOldObject => cases h
  | fullyPrivileged labels h3 hfp => exact .inr (.inr (.inr ⟨labels, h3, .inl (Bool.and_eq_true_iff.mp hfp)⟩))
  | insignificant labels h3 p h5 h6 q h7 hs =>
    exact .inr (.inr (.inr ⟨labels, h3, .inr ⟨p, h5, .inl ⟨h6, q, h7, hs⟩⟩⟩))
  | evaluated labels h3 p h5 =>
    refine .inr (.inr (.inr ⟨labels, h3, .inr ⟨p, h5, .inr ?_⟩⟩))
    cases hrc : exemptRC p.runtimeClass cfg.exRuntimeClasses
    · exact .inr ((evaluateObj_allowed cfg w.ev _ _ p hrc).symm.trans h)
    · exact .inl rfl

/-- C10: an update that leaves containers and images alone is allowed whatever the policy, without evaluation -/
theorem C10_insignificant (p q : PodObj) (hobj : r.obj = .ok (.pod p)) (hold : r.old = .ok (.pod q))
    (hop : r.op = .update) (hsig : isSignificant p.pod q.pod = false)
    (labels : Labels) (hns : w.getNs = .ok labels) :
    (validatePod pv cfg w r).1.allowed = true ∧ (validatePod pv cfg w r).2.evalCalls = [] := by
  have ho := validatePod_outcome pv cfg w r
  generalize validatePod pv cfg w r = out at ho ⊢
  cases ho with
  | ignored | exemptNs | exemptUser | fullyPrivileged | insignificant => exact ⟨rfl, rfl⟩
  | nsErr e h => rw [hns] at h; cases h
  | badObject h => exact absurd hobj (h p)
  | badOldObject _ _ _ h => exact absurd hold (h q)
  | evaluated _ _ p' h5 h =>
    cases hobj.symm.trans h5
    rcases h with h | ⟨q', hq, hs⟩
    · exact absurd hop h
    · cases hold.symm.trans hq; rw [hsig] at hs; cases hs

#print axioms C07_pod_closed
#print axioms C09_allowed
#print axioms C10_insignificant
end PSA
