import Psa.Admission
/-! metrics/metrics.go: label bucketing and counter bookkeeping. -/
namespace PSA

/-- the `policy_version` label of RecordEvaluation -/
def versionLabel (server : Ver) (lv : LevelVersion) : Str :=
  if lv.version == .latest || lv.level == .privileged then b!"latest"
  else if !server.older lv.version then lv.version.str
  else b!"future"

/-- counter vector as an association list label-tuple → count -/
abbrev Counters := List (List Str × Nat)

def Counters.get (c : Counters) (k : List Str) : Nat := match c.find? (·.1 = k) with | some e => e.2 | none => 0

def Counters.inc : Counters → List Str → Counters
  | [], k => [(k, 1)]
  | (k', n) :: rest, k => if k' = k then (k', n + 1) :: rest else (k', n) :: Counters.inc rest k

def recordAll (c : Counters) (events : List (List Str)) : Counters := events.foldl Counters.inc c

/-- Reset: every series starts again from zero -/
def Counters.reset (_ : Counters) : Counters := []

theorem Counters.get_inc (c : Counters) (k k' : List Str) :
    (c.inc k).get k' = c.get k' + (if k = k' then 1 else 0) := by
  induction c with
  | nil => by_cases h : k = k' <;> simp [Counters.inc, Counters.get, h]
  | cons e rest ih =>
    obtain ⟨ek, en⟩ := e
    simp only [Counters.inc]
    by_cases h1 : ek = k
    · subst h1
      by_cases h2 : ek = k' <;> simp [Counters.get, h2]
    · simp only [h1, ↓reduceIte]
      by_cases h2 : ek = k'
      · subst h2
        have : ¬ k = ek := fun h => h1 h.symm
        simp [Counters.get, this]
      · simp only [Counters.get, List.find?_cons, h2, decide_false] at ih ⊢
        exact ih

end PSA

namespace PSA

def lowerByte (c : Nat) : Nat := if 65 ≤ c ∧ c ≤ 90 then c + 32 else c
/-- operationLabel -/
def operationLabel (op : Str) : Str := op.map lowerByte
/-- resourceLabel: group "" + resource pods / namespaces, everything else is a controller -/
def resourceLabel (group resource : Str) : Str :=
  if group = [] ∧ resource = b!"pods" then b!"pod"
  else if group = [] ∧ resource = b!"namespaces" then b!"namespace"
  else b!"controller"

structure ReqLabels where
  op : Str
  group : Str
  resource : Str
  sub : Str

/-- the label tuple RecordEvaluation increments -/
def evalSeries (server : Ver) (decision : Str) (lv : LevelVersion) (mode : Str) (r : ReqLabels) : List Str :=
  [decision, lv.level.str, versionLabel server lv, mode, operationLabel r.op, resourceLabel r.group r.resource, r.sub]
def exemptSeries (r : ReqLabels) : List Str := [operationLabel r.op, resourceLabel r.group r.resource, r.sub]
def errorSeries (fatal : Bool) (r : ReqLabels) : List Str :=
  [if fatal then b!"true" else b!"false", operationLabel r.op, resourceLabel r.group r.resource, r.sub]

end PSA
