import Psa.Metrics
/-! metrics/metrics.go, `evaluationsCounter` / `exemptionsCounter`: a Prometheus counter vector behind a cache of counter
    handles for the hottest label tuples.

    * the vector maps a label tuple to a *handle* (a cell holding a count); `WithLabelValues` gets or creates the handle;
    * `CachedInc` increments the cached handle of the tuple if there is one, the vector's handle otherwise;
    * `Reset` empties the vector (old handles stay alive but are no longer gathered) and re-populates the cache with
      *fresh* handles of the tuples to cache.

    What is gathered for a tuple is the count of the vector's current handle. The machine refines the plain counter map of
    `Psa/Metrics.lean` (`Counters`) as long as the cache is *coherent* — every cached handle is the vector's current handle
    for its tuple — which `reset` establishes and `inc` preserves. A variant that keeps the cache across a reset is not: its
    witness is below. Each operation is one atomic step (increments under the read lock commute, `Reset` holds the write
    lock), so a history is a list of operations. -/
namespace PSA.MetricsCache
open PSA

abbrev Key := List Str

structure Vec where
  cells : List Nat               -- handle i holds cells[i]
  cur : List (Key × Nat)         -- the vector: label tuple → current handle
  cache : List (Key × Nat)       -- cached handles
  deriving Repr

def lookup (m : List (Key × Nat)) (k : Key) : Option Nat := (m.find? (·.1 = k)).map (·.2)

/-- `WithLabelValues`: the current handle of `k`, created (with count 0) if there is none -/
def getOrCreate (v : Vec) (k : Key) : Vec × Nat :=
  match lookup v.cur k with
  | some h => (v, h)
  | none => ({ v with cells := v.cells ++ [0], cur := v.cur ++ [(k, v.cells.length)] }, v.cells.length)

def bump (cells : List Nat) (h : Nat) : List Nat := cells.modify h (· + 1)

/-- `CachedInc` -/
def inc (v : Vec) (k : Key) : Vec :=
  match lookup v.cache k with
  | some h => { v with cells := bump v.cells h }
  | none => let (v', h) := getOrCreate v k; { v' with cells := bump v'.cells h }

/-- `populateCache` -/
def populate (toCache : List Key) (v : Vec) : Vec :=
  toCache.foldl (fun v k => let (v', h) := getOrCreate v k; { v' with cache := (k, h) :: v'.cache.filter (·.1 ≠ k) }) v

/-- `Reset`: the vector forgets every series, the cache is rebuilt from fresh handles -/
def reset (toCache : List Key) (v : Vec) : Vec := populate toCache { v with cur := [], cache := [] }

/-- the variant of seeded change C18-b: the cache survives the reset -/
def resetKeepingCache (v : Vec) : Vec := { v with cur := [] }

def init (toCache : List Key) : Vec := reset toCache ⟨[], [], []⟩

/-- what a scrape shows for a tuple -/
def count (v : Vec) (k : Key) : Nat := match lookup v.cur k with | some h => v.cells.getD h 0 | none => 0

/-- coherence: cached handles are the vector's current ones; handles are valid and not shared between tuples -/
structure Inv (v : Vec) : Prop where
  coherent : ∀ k h, lookup v.cache k = some h → lookup v.cur k = some h
  valid : ∀ k h, lookup v.cur k = some h → h < v.cells.length
  inj : ∀ k k' h, lookup v.cur k = some h → lookup v.cur k' = some h → k = k'

inductive Op | inc (k : Key) | reset
def step (toCache : List Key) (v : Vec) : Op → Vec
  | .inc k => inc v k
  | .reset => reset toCache v
def run (toCache : List Key) (v : Vec) (ops : List Op) : Vec := ops.foldl (step toCache) v

/-- the specification: a plain counter map, emptied by a reset -/
def specStep (c : Counters) : Op → Counters
  | .inc k => c.inc k
  | .reset => c.reset
def specRun (c : Counters) (ops : List Op) : Counters := ops.foldl specStep c

/-! ### the association lists as partial maps -/

theorem lookup_cons (m : List (Key × Nat)) (k k' : Key) (h : Nat) :
    lookup ((k, h) :: m) k' = if k = k' then some h else lookup m k' := by
  unfold lookup
  by_cases e : k = k' <;> simp [e]

theorem lookup_append (m m' : List (Key × Nat)) (k : Key) : lookup (m ++ m') k = (lookup m k).or (lookup m' k) := by
  simp only [lookup, List.find?_append, Option.map_or]

theorem lookup_filter_ne (m : List (Key × Nat)) (k k' : Key) (hne : k ≠ k') :
    lookup (m.filter (·.1 ≠ k)) k' = lookup m k' := by
  unfold lookup
  rw [List.find?_filter]
  congr 2; funext x
  by_cases e : x.1 = k' <;> simp [e, hne.symm]

/-! ### cells -/

theorem getD_bump (cells : List Nat) (h i : Nat) (hv : h < cells.length) :
    (bump cells h).getD i 0 = cells.getD i 0 + (if i = h then 1 else 0) := by
  unfold bump
  simp only [List.getD_eq_getElem?_getD, List.getElem?_modify]
  by_cases hi : i = h
  · subst hi
    simp [List.getElem?_eq_getElem hv]
  · have : ¬ h = i := fun e => hi e.symm
    simp [hi, this]

theorem length_bump (cells : List Nat) (h : Nat) : (bump cells h).length = cells.length := by simp [bump]

/-! ### the operations -/

/-- `getOrCreate` keeps the invariant, leaves every count unchanged, and returns the current handle of `k` -/
theorem getOrCreate_spec (v : Vec) (k : Key) (hi : Inv v) :
    Inv (getOrCreate v k).1 ∧ lookup (getOrCreate v k).1.cur k = some (getOrCreate v k).2 ∧
    ∀ k', count (getOrCreate v k).1 k' = count v k' := by
  unfold getOrCreate
  cases hl : lookup v.cur k with
  | some h => exact ⟨hi, hl, fun _ => rfl⟩
  | none =>
    -- the new handle is the index of the new cell: it is valid, and no tuple has it yet since theirs are below it
    have key (k' : Key) (h : Nat) : lookup (v.cur ++ [(k, v.cells.length)]) k' = some h ↔
        lookup v.cur k' = some h ∨ lookup v.cur k' = none ∧ k = k' ∧ v.cells.length = h := by
      simp only [lookup_append, lookup_cons, Option.or_eq_some_iff, Option.ite_none_right_eq_some, Option.some.injEq,
        show lookup [] k' = none from rfl]
    refine ⟨⟨fun k' h hc => (key k' h).mpr (.inl (hi.coherent k' h hc)), fun k' h hc => ?_, fun k1 k2 h h1 h2 => ?_⟩,
      (key _ _).mpr (.inr ⟨hl, rfl, rfl⟩), fun k' => ?_⟩
    · simp only [List.length_append, List.length_cons, List.length_nil]
      rcases (key k' h).mp hc with a | ⟨-, -, e⟩
      · have := hi.valid k' h a; omega
      · omega
    · rcases (key k1 h).mp h1 with a | ⟨-, rfl, e⟩ <;> rcases (key k2 h).mp h2 with b | ⟨-, rfl, e'⟩
      · exact hi.inj k1 k2 h a b
      · have := hi.valid k1 h a; omega
      · have := hi.valid k2 h b; omega
      · rfl
    · -- the new cell holds 0, which is also what a scrape shows for a tuple without a handle
      have g0 (h : Nat) : (v.cells ++ [0]).getD h 0 = v.cells.getD h 0 := by
        simp only [List.getD_eq_getElem?_getD, List.getElem?_append]
        split
        · rfl
        · next hlt => cases h - v.cells.length <;> simp [List.getElem?_eq_none (Nat.not_lt.mp hlt)]
      simp only [count, lookup_append, lookup_cons, g0, show lookup [] k' = none from rfl]
      cases lookup v.cur k' with
      | some h' => rfl
      | none => by_cases e : k = k' <;> simp [e]

/-- incrementing the current handle `h` of `k` adds one to `k` and to nothing else, and keeps the invariant -/
theorem bump_spec (v : Vec) (k : Key) (h : Nat) (hi : Inv v) (hk : lookup v.cur k = some h) :
    Inv { v with cells := bump v.cells h } ∧
    ∀ k', count { v with cells := bump v.cells h } k' = count v k' + (if k = k' then 1 else 0) := by
  refine ⟨⟨hi.coherent, fun k' h' hc => by simpa [length_bump] using hi.valid k' h' hc, hi.inj⟩, fun k' => ?_⟩
  simp only [count]
  cases hc : lookup v.cur k' with
  | none => simp [show k ≠ k' from fun e => by simp [e, hc] at hk]
  | some h' =>
    -- no other tuple shares the handle
    have : k = k' ↔ h' = h := ⟨fun e => by simpa [e, hc] using hk, fun e => hi.inj k k' h hk (e ▸ hc)⟩
    simp only [getD_bump _ _ _ (hi.valid k h hk), this]

/-- **one increment**: adds exactly one to its own tuple, and the cache stays coherent — whether the tuple was cached or not -/
theorem inc_spec (v : Vec) (k : Key) (hi : Inv v) :
    Inv (inc v k) ∧ ∀ k', count (inc v k) k' = count v k' + (if k = k' then 1 else 0) := by
  unfold inc
  cases hc : lookup v.cache k with
  | some h => exact bump_spec v k h hi (hi.coherent k h hc)
  | none =>
    obtain ⟨hi', hk', hcnt⟩ := getOrCreate_spec v k hi
    simpa only [hcnt] using bump_spec _ k _ hi' hk'

/-- `populateCache` keeps the invariant and changes no count -/
theorem populate_spec (toCache : List Key) (v : Vec) (hi : Inv v) :
    Inv (populate toCache v) ∧ ∀ k', count (populate toCache v) k' = count v k' := by
  refine List.foldlRecOn toCache _ (motive := fun w => Inv w ∧ ∀ k', count w k' = count v k') ⟨hi, fun _ => rfl⟩ ?_
  rintro w ⟨hw, hc⟩ k -
  obtain ⟨hi', hk', hcnt⟩ := getOrCreate_spec w k hw
  refine ⟨⟨fun k' h' => ?_, hi'.valid, hi'.inj⟩, fun k' => (hcnt k').trans (hc k')⟩
  -- the cache now answers `k` with the handle just obtained, and every other tuple as before
  simp only [lookup_cons]
  split
  · next e => rintro ⟨⟩; exact e ▸ hk'
  · next e => rw [lookup_filter_ne _ _ _ e]; exact hi'.coherent k' h'

/-- **reset**: afterwards every tuple shows zero and the cache is coherent again (with fresh handles) -/
theorem reset_spec (toCache : List Key) (v : Vec) : Inv (reset toCache v) ∧ ∀ k, count (reset toCache v) k = 0 :=
  populate_spec toCache { v with cur := [], cache := [] } ⟨nofun, nofun, nofun⟩

/-- **Refinement**: from a coherent state whose scrape equals a counter map, every history of increments and resets ends in a
    coherent state whose scrape equals the plain counter map run over the same history. -/
theorem run_refines (toCache : List Key) (v : Vec) (c : Counters) (ops : List Op) (hi : Inv v)
    (h0 : ∀ k, count v k = c.get k) :
    Inv (run toCache v ops) ∧ ∀ k, count (run toCache v ops) k = (specRun c ops).get k := by
  refine List.foldl_rel (r := fun (v : Vec) (c : Counters) => Inv v ∧ ∀ k, count v k = c.get k) ⟨hi, h0⟩ ?_
  rintro (k | _) - v c ⟨hi, h0⟩
  · exact ⟨(inc_spec v k hi).1, fun k' => by rw [step, specStep, (inc_spec v k hi).2, Counters.get_inc, h0]⟩
  · exact reset_spec toCache v

end PSA.MetricsCache
