import Psa.Eval
import Psa.Fixtures.F0
import Psa.Fixtures.F1
import Psa.Fixtures.F2
import Psa.Fixtures.F3
import Psa.Fixtures.F4
import Psa.Fixtures.F5
import Psa.Fixtures.F6
import Psa.Fixtures.F7
import Psa.Fixtures.F8
import Psa.Fixtures.F9
import Psa.Fixtures.F10
import Psa.Fixtures.F11
import Psa.Fixtures.F12
import Psa.Fixtures.F13
import Psa.Fixtures.F14
import Psa.Fixtures.F15
/-! # C20 — the published conformance fixtures agree with the evaluator
The fixture table is finite: every (level, version v1.0 … newest tested, control, pass/fail, pod) produced by the generators
of package `test`, de-duplicated by the revision signature of the version (versions that run the same revisions are one
obligation). It is re-extracted from /repo on every run (`Psa/Fixtures/F*.lean`), and each chunk is decided by the kernel. -/
namespace PSA.Props
open PSA

def allFixtures : List Fixture := Fixtures.chunk0 ++ Fixtures.chunk1 ++ Fixtures.chunk2 ++ Fixtures.chunk3 ++ Fixtures.chunk4 ++ Fixtures.chunk5 ++ Fixtures.chunk6 ++ Fixtures.chunk7 ++ Fixtures.chunk8 ++ Fixtures.chunk9 ++ Fixtures.chunk10 ++ Fixtures.chunk11 ++ Fixtures.chunk12 ++ Fixtures.chunk13 ++ Fixtures.chunk14 ++ Fixtures.chunk15

/-- **Every** published fixture: pass fixtures are allowed at their level and version, fail fixtures are rejected there by
    the control they are named for (or the restricted control overriding it), after API-server defaulting. -/
theorem C20_fixtures_agree : ∀ f ∈ allFixtures, fixtureOk f = true := by
  refine List.all_eq_true.mp ?_
  simp only [allFixtures, List.all_append, Fixtures.chunk0_ok, Fixtures.chunk1_ok, Fixtures.chunk2_ok, Fixtures.chunk3_ok,
    Fixtures.chunk4_ok, Fixtures.chunk5_ok, Fixtures.chunk6_ok, Fixtures.chunk7_ok, Fixtures.chunk8_ok, Fixtures.chunk9_ok,
    Fixtures.chunk10_ok, Fixtures.chunk11_ok, Fixtures.chunk12_ok, Fixtures.chunk13_ok, Fixtures.chunk14_ok,
    Fixtures.chunk15_ok, Bool.and_self]

/-- … and in a process whose user-namespace switch has any history of calls that ends with it switched off (the process starts
    with it off): the fixtures are judged with what is in force, which is the default configuration again -/
theorem C20_after_switch_history (calls : List Bool) : ∀ f ∈ allFixtures, fixtureOkWith (switchAfter false (calls ++ [false])) f = true := by
  intro f hf
  rw [switchAfter_append]
  exact C20_fixtures_agree f hf

/-- the history matters: with the switch left ON the published procMount fail fixture is no longer rejected (it sets
    hostUsers: false) — which is why "switched off again" must really switch it off -/
example :
    let f : Fixture := { level := .baseline, minor := 0, check := b!"procMount", pass := false,
                         pod := { hostUsers := some false, containers := [{ name := b!"c", sc := some { procMount := some b!"Unmasked" } }] } }
    fixtureOkWith false f = true ∧ fixtureOkWith true f = false := by decide +kernel

/-- the defaulting clause is needed: the published pass fixture "implicit empty dir" (a volume with no source) is rejected
    by the raw evaluator at restricted and accepted once the API server's defaulting (no source ⇒ emptyDir) is applied -/
example :
    let p : Pod := { volumes := [{ name := b!"volume-implicit-emptydir" }] }
    (run Generated.tables false .restrictedVolumes0 p).allowed = false ∧
    (run Generated.tables false .restrictedVolumes0 (apiDefault p)).allowed = true := by decide

-- non-vacuity: the chunks are not empty and contain both kinds
example : Fixtures.chunk0.length ≥ 30 ∧ Fixtures.chunk0.any (·.pass) = true ∧ Fixtures.chunk0.any (fun f => !f.pass) = true := by
  refine ⟨by decide, ?_, ?_⟩ <;> rfl

#print axioms C20_fixtures_agree
#print axioms C20_after_switch_history
#print axioms Fixtures.chunk0_ok
#print axioms Fixtures.chunk1_ok
#print axioms Fixtures.chunk2_ok
#print axioms Fixtures.chunk3_ok
#print axioms Fixtures.chunk4_ok
#print axioms Fixtures.chunk5_ok
#print axioms Fixtures.chunk6_ok
#print axioms Fixtures.chunk7_ok
#print axioms Fixtures.chunk8_ok
#print axioms Fixtures.chunk9_ok
#print axioms Fixtures.chunk10_ok
#print axioms Fixtures.chunk11_ok
#print axioms Fixtures.chunk12_ok
#print axioms Fixtures.chunk13_ok
#print axioms Fixtures.chunk14_ok
#print axioms Fixtures.chunk15_ok
end PSA.Props
