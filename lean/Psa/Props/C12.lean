import Psa.DryRunProofs
import Psa.Generated.Facts
/-! # C12 — the existing-pod dry run is bounded and honest about partial coverage
Expiry is an index `e : Option Nat` (the context reports an error from the e-th evaluation on); every theorem quantifies
over every `e`. That the Go runtime cancels on time is not modelled (wall clock): the harness observes the deadline. -/
namespace PSA.Props
open PSA

/-- **Time bound**: the dry-run budget is the lesser of the default and half of the remaining request time
    (Go's truncating division), hence never more than either. -/
theorem C12_timeout (dflt rem : Int) :
    dryRunTimeout dflt (some rem) = min dflt (rem.tdiv 2) ∧ dryRunTimeout dflt none = dflt := by
  simp only [dryRunTimeout, and_true]
  split <;> omega

theorem C12_timeout_le (dflt : Int) (rem : Option Int) :
    dryRunTimeout dflt rem ≤ dflt ∧ (∀ x, rem = some x → dryRunTimeout dflt rem ≤ x.tdiv 2) := by
  cases rem with
  | none => simp [dryRunTimeout]
  | some x => simp only [dryRunTimeout]; split <;> constructor <;> (try intro y hy; cases hy) <;> omega

/-- the budget is what the lister is given, and the default is one second -/
theorem C12_lister_deadline (pv) (cfg : Config) (lim : Limits) (w : World Ev) (r : Request)
    (h : (validateNamespace pv cfg lim w r).2.listCalls = 1) :
    (validateNamespace pv cfg lim w r).2.listTimeout = dryRunTimeout lim.timeout w.remaining := by
  rcases validateNamespace_decision pv cfg r with ⟨_, h'⟩ | ⟨_, _, h'⟩ <;> rw [h'] at h ⊢
  · cases h
  · rfl

/-- **Cap**: never more evaluations than the cap, whatever the population and whenever the context expires. -/
theorem C12_cap (ev : Ev) (exRC : List Str) (maxPods : Nat) (ns : Str) (lv : LevelVersion) (pods : List PodObj) (e : Option Nat) :
    (dryRun ev exRC maxPods ns lv pods e).2.length ≤ maxPods := (dryRun_calls ev exRC maxPods ns lv pods e).2.1

/-- one step of prioritizePods keeps: every recorded controller uid has a kept pod; every pod pushed behind has a kept
    pod of the same controller -/
theorem prioStep_inv (exRC : List Str) (st : List PodObj × List PodObj × List Str) (x : PodObj)
    (hseen : ∀ u ∈ st.2.2, ∃ q ∈ st.1, q.owner = some u)
    (hsib : ∀ p ∈ st.2.1, ∃ q ∈ st.1, q.owner = p.owner ∧ p.owner ≠ none) :
    (∀ u ∈ (prioStep exRC st x).2.2, ∃ q ∈ (prioStep exRC st x).1, q.owner = some u) ∧
    (∀ p ∈ (prioStep exRC st x).2.1, ∃ q ∈ (prioStep exRC st x).1, q.owner = p.owner ∧ p.owner ≠ none) := by
  -- both parts survive when the kept list grows
  have hseen' : ∀ u ∈ st.2.2, ∃ q ∈ st.1 ++ [x], q.owner = some u :=
    fun u hu => (hseen u hu).elim fun q hq => ⟨q, List.mem_append_left _ hq.1, hq.2⟩
  have hsib' : ∀ p ∈ st.2.1, ∃ q ∈ st.1 ++ [x], q.owner = p.owner ∧ p.owner ≠ none :=
    fun p hp => (hsib p hp).elim fun q hq => ⟨q, List.mem_append_left _ hq.1, hq.2⟩
  unfold prioStep
  cases exemptRC x.runtimeClass exRC
  case true => exact ⟨hseen, hsib⟩
  cases hx : x.owner with
  | none => exact ⟨hseen', hsib'⟩
  | some uid =>
    simp only [Bool.false_eq_true, ↓reduceIte]
    cases hc : st.2.2.contains uid
    · refine ⟨fun u hu => ?_, hsib'⟩
      rcases List.mem_cons.mp hu with rfl | hu
      · exact ⟨x, by simp, hx⟩
      · exact hseen' u hu
    · refine ⟨hseen, fun p hp => ?_⟩
      rcases List.mem_append.mp hp with hp | hp
      · exact hsib p hp
      · obtain rfl := List.mem_singleton.mp hp
        obtain ⟨q, hq, ho⟩ := hseen uid (by simpa using hc)
        exact ⟨q, hq, ho.trans hx.symm, by simp [hx]⟩

/-- **Prioritisation**: every pod pushed behind is a later sibling — some kept pod of the same controller precedes it
    (the kept pods are all evaluated before any pushed-back pod: `prioritize = kept ++ pushedBack`). -/
theorem C12_siblings_after (exRC : List Str) (pods : List PodObj) :
    ∀ p ∈ (pods.foldl (prioStep exRC) ([], [], [])).2.1,
      ∃ q ∈ (pods.foldl (prioStep exRC) ([], [], [])).1, q.owner = p.owner ∧ p.owner ≠ none := by
  have : ∀ (l : List PodObj) (st : List PodObj × List PodObj × List Str),
      (∀ u ∈ st.2.2, ∃ q ∈ st.1, q.owner = some u) → (∀ p ∈ st.2.1, ∃ q ∈ st.1, q.owner = p.owner ∧ p.owner ≠ none) →
      (∀ p ∈ (l.foldl (prioStep exRC) st).2.1, ∃ q ∈ (l.foldl (prioStep exRC) st).1, q.owner = p.owner ∧ p.owner ≠ none) := by
    intro l
    induction l with
    | nil => intro st _ h; simpa using h
    | cons x xs ih =>
      intro st h1 h2
      simp only [List.foldl_cons]
      exact ih _ (prioStep_inv exRC st x h1 h2).1 (prioStep_inv exRC st x h1 h2).2
  exact this pods _ (by simp) (by simp)

/-- **Honest cut-off**, for every expiry index: the "only checked the first c of t" line is present iff fewer pods were
    evaluated than exist, with exactly those two numbers … -/
theorem C12_honest (ev : Ev) (exRC : List Str) (maxPods : Nat) (ns : Str) (lv : LevelVersion) (pods : List PodObj) (e : Option Nat) :
    let r := dryRun ev exRC maxPods ns lv pods e
    let total := (prioritize exRC pods).length
    (Warning.onlyChecked r.2.length total ∈ r.1 ↔ r.2.length < total) ∧
    (∀ c t, Warning.onlyChecked c t ∈ r.1 → c = r.2.length ∧ t = total) := by
  simp only [dryRun, List.length_map]
  generalize (dryRunEvaluated exRC maxPods pods e).length = c
  constructor
  · by_cases h : c < (prioritize exRC pods).length
    · simp [h]
    · simp only [h, ↓reduceIte, List.nil_append, List.mem_append, List.mem_map, iff_false, not_or, not_exists, not_and]
      refine ⟨?_, fun x _ hx => by cases hx⟩
      split <;> simp
  · intro c' t' hm
    simp only [List.mem_append, List.mem_map] at hm
    rcases hm with (hm | hm) | ⟨x, _, hx⟩
    · by_cases h : c < (prioritize exRC pods).length
      · simp [h] at hm; exact hm
      · simp [h] at hm
    · split at hm <;> simp at hm
    · cases hx

/-- … the number checked is min(k+1, total, cap) when the context expires at index k … -/
theorem C12_checked (ev : Ev) (exRC : List Str) (maxPods : Nat) (ns : Str) (lv : LevelVersion) (pods : List PodObj) (k : Nat) :
    (dryRun ev exRC maxPods ns lv pods (some k)).2.length = min (k + 1) (min maxPods (prioritize exRC pods).length) ∧
    (dryRun ev exRC maxPods ns lv pods none).2.length = min maxPods (prioritize exRC pods).length := by
  simp only [dryRun, List.length_map, dryRunEvaluated_length, loopChecked]
  constructor
  · split <;> omega
  · trivial

/-- … the pods evaluated are exactly the first `checked` prioritised pods, and the violations reported are exactly those of
    the pods actually checked: they are a function of that prefix alone. -/
theorem C12_reports_checked_only (ev : Ev) (exRC : List Str) (maxPods : Nat) (ns : Str) (lv : LevelVersion) (pods : List PodObj) (e : Option Nat) :
    (dryRun ev exRC maxPods ns lv pods e).2 = (dryRunEvaluated exRC maxPods pods e).map (fun p => (lv, p.name)) ∧
    dryRunEvaluated exRC maxPods pods e = (prioritize exRC pods).take (dryRunEvaluated exRC maxPods pods e).length ∧
    (dryRun ev exRC maxPods ns lv pods e).1.filterMap (fun w => match w with | .podLine t => some t | _ => none) =
      sortStrs ((groupsSpec (dryRunViolations ev lv (dryRunEvaluated exRC maxPods pods e))).map decorate) :=
  ⟨(dryRun_calls ev exRC maxPods ns lv pods e).1, (dryRun_calls ev exRC maxPods ns lv pods e).2.2,
   dryRun_lines ev exRC maxPods ns lv pods e⟩

/-- non-vacuity: three pods, expiry at index 0: one evaluation, "1 of 3" -/
example : (dryRun (fun _ _ => []) [] 3000 b!"ns" ⟨.baseline, .latest⟩
    [{ name := b!"a", pod := {} }, { name := b!"b", pod := {} }, { name := b!"c", pod := {} }] (some 0)).1 =
    [Warning.onlyChecked 1 3] := by decide +kernel

/-- tie obligation (F7): the cap is 3000 pods and the default budget one second -/
theorem C12_constants : Generated.namespaceMaxPodsToCheck = 3000 ∧ Generated.namespacePodCheckTimeoutNs = 1000000000 := by decide

#print axioms C12_timeout
#print axioms C12_timeout_le
#print axioms C12_lister_deadline
#print axioms C12_cap
#print axioms C12_siblings_after
#print axioms C12_honest
#print axioms C12_checked
#print axioms C12_reports_checked_only
#print axioms C12_constants
end PSA.Props
