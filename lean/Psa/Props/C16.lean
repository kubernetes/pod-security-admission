import Psa.Webhook
import Psa.ReviewProofs
import Psa.ExpectedFacts
/-! # C16 — the webhook answers each review with its own UID and rejects malformed ones
`Psa/Webhook.lean`: an interleaving machine for HandleValidate (each in-flight request takes atomic steps: obtain the pointer
returned by Validate — the process-wide shared response on the common allow paths, or a fresh one — set the UID, encode) under
an arbitrary schedule, in two variants: `writesThroughReturned` (the handler as it was) and `copies` (the handler after the
fix). Which variant the code is, is fact F6 (origin of the pointer through which `UID` is stored). -/
namespace PSA.Props
open PSA PSA.Webhook

/-- **Own UID, every schedule**: in the repaired handler, whatever is written for a request carries that request's uid, for
    every number of requests in flight and every interleaving. -/
theorem C16_uid (s : St) (sched : List Nat) (h0 : ∀ t ∈ s.ths, Good t) :
    ∀ t ∈ (run .copies s sched).ths, ∀ u, t.out = some u → u = t.uid := Webhook.C16_uid s sched h0

/-- fresh requests satisfy the invariant, so the theorem applies to every start state -/
theorem C16_initial_good (uids : List (Nat × Bool)) :
    ∀ t ∈ uids.map (fun x => ({ uid := x.1, sharedPath := x.2 } : Th)), Good t := by
  intro t ht
  obtain ⟨x, _, rfl⟩ := List.mem_map.mp ht
  exact ⟨by intro h; simp at h, by intro u h; simp at h, by intro _; rfl⟩

/-- the handler as it was: two overlapping requests on the shared path, one is answered with the other's uid
    (kept as documentation of the defect that was found and fixed) -/
theorem C16_buggy_witness :
    ∃ sched, ∃ t ∈ (run .writesThroughReturned ⟨0, [{ uid := 1, sharedPath := true }, { uid := 2, sharedPath := true }]⟩ sched).ths,
      t.out = some 2 ∧ t.uid = 1 := Webhook.C16_buggy_witness

/-- tie obligation (F6): in the webhook, every store to a field of an AdmissionResponse goes through a fresh object —
    i.e. the code is the `copies` variant -/
theorem C16_variant_is_copies :
    ∀ s ∈ Generated.responseStores, s.1 = b!"cmd/webhook/server" → Expected.freshOrigins.contains s.2.2.2 = true := by decide +kernel

/-- tie obligation (F9): the webhook server package writes no state that outlives a request — no store through a method
    receiver, no package-level map / pool / cache, no sync or atomic mutator on such state — so nothing one review leaves
    behind can reach another review's answer -/
theorem C16_handler_keeps_no_state :
    Generated.stateWrites.filter (fun w => w.1 = b!"cmd/webhook/server") = [] := by decide +kernel

/-- **Malformed requests** are answered with an HTTP error status and never reach the admission library: empty body,
    3 MiB or more, a content type other than application/json, undecodable, not a v1 AdmissionReview, no request. -/
theorem C16_malformed (maxSize size : Nat) (empty : Bool) (ct : Str) (decodes v1review hasRequest : Bool)
    (h : empty = true ∨ size ≥ maxSize ∨ ct ≠ b!"application/json" ∨ decodes = false ∨ v1review = false ∨ hasRequest = false) :
    400 ≤ classify maxSize empty size ct decodes v1review hasRequest := by
  refine Nat.le_of_not_lt fun hlt => ?_
  obtain ⟨⟨h1, h2, h3, h4, h5, h6⟩, -⟩ := (classify_iff (· < 400) (by decide) (by decide) ..).mp hlt
  simp [h1, h3, h4, h5, h6] at h
  omega

/-- and a well-formed one is let through -/
theorem C16_wellformed (maxSize size : Nat) (h : size < maxSize) :
    classify maxSize false size b!"application/json" true true true = 200 :=
  (classify_iff (· = 200) (by decide) (by decide) ..).mpr ⟨⟨rfl, h, rfl, rfl, rfl, rfl⟩, rfl⟩

/-! ## Review documents (Psa/Review.lean): every JSON-object body, as a list of top-level members -/
section review
open PSA.Review

/-- **A body is answered 200 exactly when it is a well-formed v1 AdmissionReview with a request**: what kind detection reads
    as its apiVersion (last string among the members spelled `apiVersion` in any ASCII case; `null` leaves it) is absent/empty,
    `/`, `admission.k8s.io/v1` or `admission.k8s.io/`; what it reads as its kind is absent/empty or `AdmissionReview`; no
    `request` / `response` member has the wrong JSON type; and the last member spelled exactly `request` is an object. For all
    documents: any number of members, repeated keys, any order. -/
theorem C16_review_200_iff (doc : Top) :
    status doc = 200 ↔
      (∃ av k, interpretField b!"apiVersion" doc [] = some av ∧ interpretField b!"kind" doc [] = some k ∧
        apiVersionOK av ∧ kindOK k) ∧ typeError doc = false ∧ hasRequest doc = true := by
  rw [status_eq, ← detectKind_target_iff]
  simp

/-- … and every other body gets 400: an HTTP error status, never an allow -/
theorem C16_review_else_400 (doc : Top) : status doc = 200 ∨ status doc = 400 := by
  rw [status_eq]
  split <;> simp

/-- **Reviews without a request**: no member spelled exactly `request` holding an object — absent, null, misspelled
    (`Request`), or of another type — means 400, whatever else the body contains -/
theorem C16_review_needs_request (doc : Top) (h : ∀ m ∈ doc, m.1 = b!"request" → ∀ t, m.2 ≠ .obj t) : status doc = 400 := by
  refine (C16_review_else_400 doc).resolve_left fun h2 => ?_
  have hr := ((C16_review_200_iff doc).mp h2).2.2
  unfold hasRequest at hr
  split at hr
  · next k t hl =>
    have hm := List.mem_filter.mp (List.mem_of_getLast? hl)
    exact h _ hm.1 (by simpa using hm.2) t rfl
  · cases hr

/-- **Non-v1 reviews**: a body whose detected apiVersion is anything but the four accepted spellings (v1beta1, another
    group, ...) or whose detected kind is another kind is answered 400 -/
theorem C16_review_non_v1 (doc : Top) (av k : Str) (ha : interpretField b!"apiVersion" doc [] = some av)
    (hk : interpretField b!"kind" doc [] = some k) (h : ¬ apiVersionOK av ∨ ¬ kindOK k) : status doc = 400 := by
  refine (C16_review_else_400 doc).resolve_left fun h2 => ?_
  obtain ⟨⟨av', k', ha', hk', hav, hkk⟩, -⟩ := (C16_review_200_iff doc).mp h2
  cases ha.symm.trans ha'
  cases hk.symm.trans hk'
  exact h.elim (· hav) (· hkk)

open PSA.Review in
/-- non-vacuity: the two sides of the line, computed — a review with upper-case `KIND`, a trailing-slash apiVersion and a
    request is accepted; the same with `v1beta1`, with the request misspelled, or with the request overwritten by null is not -/
example : status [(b!"KIND", .str b!"AdmissionReview"), (b!"apiVersion", .str b!"admission.k8s.io/"), (b!"request", .obj true)] = 200 ∧
    status [(b!"apiVersion", .str b!"admission.k8s.io/v1beta1"), (b!"kind", .str b!"AdmissionReview"), (b!"request", .obj true)] = 400 ∧
    status [(b!"Request", .obj true)] = 400 ∧
    status [(b!"request", .obj true), (b!"request", .null)] = 400 ∧
    status [(b!"request", .null), (b!"request", .obj true)] = 200 := by decide +kernel

/-- **The two layers composed**: screening (empty body, size, content type) over the document model. For a body that is a JSON
    object, the handler's status is 400 for an empty body, 413 at or over the limit, 400 for another content type, and the
    document's own status otherwise — so an answer of 200 needs all of: a body, under the limit, `application/json`, a well-formed v1
    review with a request. -/
def handlerStatus (maxSize : Nat) (empty : Bool) (size : Nat) (ct : Str) (doc : Top) : Nat :=
  classify maxSize empty size ct ((detectKind doc).isSome && !typeError doc) (detectKind doc == some (dGroup, dVersion, dKind)) (hasRequest doc)

theorem C16_handler_status (maxSize : Nat) (empty : Bool) (size : Nat) (ct : Str) (doc : Top) :
    handlerStatus maxSize empty size ct doc =
      if empty then 400 else if size ≥ maxSize then 413 else if ct ≠ b!"application/json" then 400 else status doc := by
  unfold handlerStatus classify
  rw [status_eq]
  by_cases hd : detectKind doc = some (dGroup, dVersion, dKind)
  · cases typeError doc <;> cases hasRequest doc <;> simp [hd]
  · simp [hd]

theorem C16_handler_200_iff (maxSize : Nat) (empty : Bool) (size : Nat) (ct : Str) (doc : Top) :
    handlerStatus maxSize empty size ct doc = 200 ↔
      empty = false ∧ size < maxSize ∧ ct = b!"application/json" ∧ status doc = 200 := by
  simp only [C16_handler_status, ite_iff_of_not (· = 200) _ (by decide : 400 ≠ 200),
    ite_iff_of_not (· = 200) _ (by decide : 413 ≠ 200)]
  simp

end review

/-- tie obligation (F7): the size limit is 3 MiB -/
theorem C16_limit : Generated.maxRequestSize = 3 * 1024 * 1024 := by decide

#print axioms C16_uid
#print axioms C16_initial_good
#print axioms C16_buggy_witness
#print axioms C16_variant_is_copies
#print axioms C16_handler_keeps_no_state
#print axioms C16_malformed
#print axioms C16_wellformed
#print axioms C16_limit
#print axioms C16_review_200_iff
#print axioms C16_review_else_400
#print axioms C16_review_needs_request
#print axioms C16_review_non_v1
#print axioms C16_handler_status
#print axioms C16_handler_200_iff
end PSA.Props
