import Psa.SortProofs
import Psa.Eval
import Psa.Generated.Tables
import Psa.Generated.Facts
/-! # C14 — evaluating a pod is pure and deterministic
The model is a function of the pod. The one place where the Go code iterates a map — the pod's annotations — is an explicit
list in the model, presented in *some* order; these theorems show the order is irrelevant to every verdict and every byte of
message text. (Non-mutation of the pod is a fact extracted from the code, F5; data-race freedom is observed, not proved.) -/
namespace PSA.Props
open PSA

/-- looking a key up does not depend on the order of a map's entries (keys are distinct) -/
theorem find_perm (l l' : List (Str × Str)) (h : l.Perm l') (hnd : (l.map (·.1)).Nodup) (k : Str) :
    l.find? (fun kv => kv.1 = k) = l'.find? (fun kv => kv.1 = k) := by
  induction h with
  | nil => rfl
  | cons x _ ih =>
    simp only [List.map_cons, List.nodup_cons] at hnd
    simp only [List.find?_cons]
    split
    · rfl
    · exact ih hnd.2
  | swap x y l =>
    simp only [List.map_cons, List.nodup_cons, List.mem_cons, not_or] at hnd
    simp only [List.find?_cons]
    by_cases hx : x.1 = k <;> by_cases hy : y.1 = k <;> simp [hx, hy]
    exact absurd (hy.trans hx.symm) hnd.1.1
  | trans h1 _ ih1 ih2 =>
    exact (ih1 hnd).trans (ih2 ((h1.map _).nodup_iff.mp hnd))

theorem ann_perm (p : Pod) (anns : List (Str × Str)) (h : p.annotations.Perm anns) (hnd : (p.annotations.map (·.1)).Nodup) (k : Str) :
    ({ p with annotations := anns } : Pod).ann k = p.ann k := by
  simp only [Pod.ann]
  rw [find_perm p.annotations anns h hnd k]

/-- rendering the AppArmor result depends on the forbidden annotations only as a multiset -/
theorem render_appArmor_perm (b : Bool) (cs vals F F' : List Str) (h : F.Perm F') :
    render .appArmor (mk b cs [] [] vals F) = render .appArmor (mk b cs [] [] vals F') := by
  unfold mk
  simp only [h.isEmpty_eq]
  split
  · simp only [render, Bool.false_eq_true, ↓reduceIte, Kind.reason, Kind.detail, setters, sortStrs_eq_of_perm F F' h,
      h.length_eq, h.isEmpty_eq]
  · rfl

/-- **Every revision** gives the same result — verdict, reason and detail bytes — whatever the iteration order of the
    annotation map. -/
theorem C14_rev_order_independent (T : Tables) (relax : Bool) (r : RevId) (p : Pod) (anns : List (Str × Str))
    (h : p.annotations.Perm anns) (hnd : (p.annotations.map (·.1)).Nodup) :
    runRev T relax r { p with annotations := anns } = runRev T relax r p := by
  cases r
  case appArmor0 =>
    simp only [runRev, run, appArmorProfile_1_0, RevId.kind]
    exact render_appArmor_perm _ _ _ _ _ (((h.symm).filter _).map _)
  case seccompB0 =>
    simp only [runRev, run, seccompBaseline_1_0, ann_perm p anns h hnd]
    rfl
  all_goals rfl

/-- **Whole evaluations** likewise, at every level and version. -/
theorem C14_order_independent (relax : Bool) (lv : LevelVersion) (p : Pod) (anns : List (Str × Str))
    (h : p.annotations.Perm anns) (hnd : (p.annotations.map (·.1)).Nodup) :
    evalPodModel Generated.tables relax lv { p with annotations := anns } = evalPodModel Generated.tables relax lv p := by
  simp only [evalPodModel, C14_rev_order_independent _ _ _ p anns h hnd]

/-- sets of offending values are rendered through a sort that forgets insertion order and multiplicity -/
theorem C14_values_canonical (l l' : List Str) (h : ∀ a, a ∈ l ↔ a ∈ l') : sortDedup l = sortDedup l' :=
  sortDedup_eq_of_same_members l l' h

-- non-vacuity: two different orders of two offending annotations give the same bytes
set_option maxRecDepth 8000 in
example :
    runRev Generated.tables false .appArmor0
      { annotations := [(b!"container.apparmor.security.beta.kubernetes.io/b", b!"unconfined"),
                        (b!"container.apparmor.security.beta.kubernetes.io/a", b!"bad")] } =
    runRev Generated.tables false .appArmor0
      { annotations := [(b!"container.apparmor.security.beta.kubernetes.io/a", b!"bad"),
                        (b!"container.apparmor.security.beta.kubernetes.io/b", b!"unconfined")] } := by decide +kernel

/-- tie obligation (F5): no shipped revision stores through, updates a map of, or sorts in place anything reached from the
    pod metadata / spec parameters -/
theorem C14_no_pod_writes : Generated.podWrites = [] := by decide

/-- tie obligation (F9): evaluating writes no state that outlives the call — nothing in package `policy` stores through a
    method receiver (the registry is immutable once `NewEvaluator` returned), updates a package-level map or calls a sync /
    atomic mutator, apart from the administrator's setter of the user-namespace switch (C19). An evaluator therefore cannot
    answer differently because of what, or how many goroutines at once, it evaluated before. -/
theorem C14_evaluator_immutable :
    Generated.stateWrites.filter (fun w => w.1 = b!"policy" ∧ w.2.1 ≠ b!"policy.RelaxPolicyForUserNamespacePods") = [] := by
  decide

#print axioms C14_rev_order_independent
#print axioms C14_order_independent
#print axioms C14_values_canonical
#print axioms C14_no_pod_writes
#print axioms C14_evaluator_immutable
end PSA.Props
