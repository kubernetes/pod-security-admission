import Psa.Namespace
import Psa.ExpectedFacts
import Psa.StoreMachine
import Psa.Examples
/-! # C15 — admission responses are independent of other requests
In the model, `validate` is a function of (configuration, world, request): there is no controller state for a request to
leave behind. What makes that a faithful model of the Go code is *structural*, and is regenerated from the source on every
run: F6 — every store to a field of an AdmissionResponse in package `admission` goes through a freshly allocated response
(the five process-wide shared responses are written only by the package initialiser); F8 — outside `init` functions no
function of `api`, `policy`, `admission`, `metrics` stores to a package-level variable (check registration, reached only from
init, excepted; the user-namespace switch is an atomic.Bool with its own setter). The theorems below lift the functional
model to request histories and interleavings; the obligations are the tie. Data-race freedom is observed (race detector). -/
namespace PSA.Props
open PSA

/-- the controller as a state machine: its state is the shared response cells; one request = one atomic step -/
structure Ctl where
  shared : List Resp

def handle (cfg : Config) (lim : Limits) (s : Ctl) (x : World Ev × Request) : Ctl × (Resp × Eff) :=
  (s, validate parseVersion cfg lim x.1 x.2)

def runSeq (cfg : Config) (lim : Limits) (s : Ctl) : List (World Ev × Request) → Ctl × List (Resp × Eff)
  | [] => (s, [])
  | x :: xs =>
    let (s1, o) := handle cfg lim s x
    let (s2, os) := runSeq cfg lim s1 xs
    (s2, o :: os)

theorem runSeq_eq (cfg : Config) (lim : Limits) (s : Ctl) (xs : List (World Ev × Request)) :
    runSeq cfg lim s xs = (s, xs.map fun x => validate parseVersion cfg lim x.1 x.2) := by
  induction xs with
  | nil => rfl
  | cons x xs ih => simp [runSeq, handle, ih]

/-- **Sequences**: every request of every history gets the response it would get alone from a fresh controller, and the
    shared cells are never changed. -/
theorem C15_sequence (cfg : Config) (lim : Limits) (s : Ctl) (xs : List (World Ev × Request)) :
    (runSeq cfg lim s xs).2 = xs.map (fun x => (handle cfg lim ⟨[]⟩ x).2) ∧ (runSeq cfg lim s xs).1.shared = s.shared := by
  rw [runSeq_eq]
  exact ⟨rfl, rfl⟩

/-- **Interleavings**: requests in flight take their (atomic) step in any order given by a schedule of request indices;
    the response recorded for request i does not depend on the schedule. -/
def runSched (cfg : Config) (lim : Limits) (xs : List (World Ev × Request)) (sched : List Nat) : List (Nat × (Resp × Eff)) :=
  sched.filterMap (fun i => (xs[i]?).map (fun x => (i, (handle cfg lim ⟨[]⟩ x).2)))

theorem C15_interleaving (cfg : Config) (lim : Limits) (xs : List (World Ev × Request)) (sched : List Nat) :
    ∀ e ∈ runSched cfg lim xs sched, ∃ x, xs[e.1]? = some x ∧ e.2 = validate parseVersion cfg lim x.1 x.2 := by
  intro e he
  simp only [runSched, List.mem_filterMap, Option.map_eq_some_iff] at he
  obtain ⟨i, -, x, hx, rfl⟩ := he
  exact ⟨x, hx, rfl⟩

/-- tie obligation (F6): in package `admission`, every store to an AdmissionResponse field goes through a fresh response
    (or is the initialiser filling a shared one) -/
theorem C15_responses_fresh :
    ∀ s ∈ Generated.responseStores, s.1 = b!"admission" → Expected.responseStoreOK s = true := by decide +kernel

/-- tie obligation (F8): no function outside init stores to package-level state in api / policy / admission / metrics,
    other than check registration -/
theorem C15_no_global_state : Generated.globalStores = Expected.globalStores := by decide +kernel

/-- tie obligation (F9): no method writes through its receiver, into a package-level map or struct, or calls a
    sync / atomic mutator on such state — other than `CompleteConfiguration` (before serving); in particular the controller
    keeps no cache between requests. What the administrator's setter of the user-namespace switch does inside is C19's
    business (`C19_switch_is_plain_store`), it is not on any request path. -/
theorem C15_no_receiver_state :
    Generated.stateWrites.filter (fun w => w.2.1 ≠ b!"policy.RelaxPolicyForUserNamespacePods") =
    Expected.stateWrites.filter (fun w => w.2.1 ≠ b!"policy.RelaxPolicyForUserNamespacePods") := by decide +kernel

/-- the store instructions of the request-handling code (everything factx found outside package initialisers) -/
def requestStores : List StoreMachine.Instr :=
  (Generated.responseStores.filter (fun s => !(b!"init".isPrefixOf s.2.1))).map (fun s => ⟨s.2.1, s.2.2.1, s.2.2.2⟩)

/-- **The shared responses are never written by request handling**, whatever the requests and however they interleave: in
    the store machine whose program is the regenerated list of stores to AdmissionResponse fields (admission package and
    webhook handler), every schedule of every number of handlers leaves the shared state as it was. This is F6 turned into
    the statement the property needs; it is re-proved against the current source on every run. -/
theorem C15_shared_responses_never_written (s : StoreMachine.Shared) (sched : List (Nat × Nat)) :
    StoreMachine.run requestStores s sched = s :=
  StoreMachine.run_fresh requestStores (by decide +kernel) s sched

/-- non-vacuity: a history of three different requests (a denied pod, an exempt pod, a warned controller) through `runSeq`:
    three different answers, each the answer of the request alone -/
example : ((runSeq Ex.cfg Ex.lim ⟨[]⟩ [(Ex.world Ex.restrictedLabels, Ex.podCreate Ex.privPod), (Ex.world Ex.restrictedLabels, Ex.podCreate Ex.kataPod),
      (Ex.world Ex.restrictedLabels, Ex.ctlCreate Ex.privPod)]).2.map (fun o => (o.1.allowed, o.1.code, o.1.warnings.length))) =
    [(false, 403, 0), (true, 0, 0), (true, 0, 1)] := by decide +kernel

#print axioms C15_sequence
#print axioms C15_interleaving
#print axioms C15_responses_fresh
#print axioms C15_no_global_state
#print axioms C15_no_receiver_state
#print axioms C15_shared_responses_never_written
end PSA.Props
