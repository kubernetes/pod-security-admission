import Psa.AdmitProps
import Psa.C02Bridge
import Psa.Examples
/-! # C01 — the pod admission verdict equals the namespace's enforce-policy verdict -/
namespace PSA.Props
open PSA

/-- the requests C01 speaks about: a pod CREATE, or a pod UPDATE that changes an image or the set of containers,
    on a non-ignored subresource, not exempt by namespace / user / runtime class, with no dependency fault -/
structure Evaluated (cfg : Config) (w : World Ev) (r : Request) (labels : Labels) (p : PodObj) : Prop where
  sub : ignoredSubresources.contains r.sub = false
  ns : exempt r.ns cfg.exNamespaces = false
  user : exempt r.user cfg.exUsers = false
  getNs : w.getNs = .ok labels
  obj : r.obj = .ok (.pod p)
  op : r.op = .create ∨ (r.op = .update ∧ ∃ q, r.old = .ok (.pod q) ∧ isSignificant p.pod q.pod = true)
  rc : exemptRC p.runtimeClass cfg.exRuntimeClasses = false

/-- the shared tail of the three theorems: such a request reaches EvaluatePod with enforce = true,
    unless the namespace is fully privileged with clean labels -/
theorem validatePod_evaluated (pv) (cfg : Config) (w : World Ev) (r : Request) (labels : Labels) (p : PodObj)
    (h : Evaluated cfg w r labels p) :
    let pe := policyToEvaluate pv labels cfg.defaults
    validatePod pv cfg w r =
      if pe.2.isEmpty && pe.1.fullyPrivileged then
        ({ allowed := true, annEnforce := some ⟨.privileged, .latest⟩ }, { metrics := [.eval true pe.1.enforce 0] })
      else evaluateObj w.ev cfg pe.1 (!pe.2.isEmpty) p true := by
  intro pe
  unfold validatePod
  simp only [h.sub, h.ns, h.user, h.getNs, h.obj, Bool.false_eq_true, ↓reduceIte]
  rcases h.op with hc | ⟨hu, q, hq, hs⟩
  · simp only [hc]
    split <;> rfl
  · simp only [hu, hq, hs, ↓reduceIte]
    rfl

/-- **Verdict.** For every configuration, label map, evaluator (that runs nothing at privileged) and request of the kind
    above: allowed ⇔ the pod passes the enforce level at the enforce version the labels and defaults resolve to. -/
theorem C01_verdict (pv) (cfg : Config) (w : World Ev) (r : Request) (labels : Labels) (p : PodObj)
    (h : Evaluated cfg w r labels p) (hpriv : ∀ v x, w.ev ⟨.privileged, v⟩ x = []) :
    (validatePod pv cfg w r).1.allowed =
      (aggregate (w.ev (policyToEvaluate pv labels cfg.defaults).1.enforce p)).allowed := by
  rw [validatePod_evaluated pv cfg w r labels p h]
  split
  · next hfp =>
    simp only [Bool.and_eq_true, Policy.fullyPrivileged, beq_iff_eq] at hfp
    have := hpriv (policyToEvaluate pv labels cfg.defaults).1.enforce.version p
    rw [← hfp.2.1.1] at this
    exact (congrArg (fun l => (aggregate l).allowed) this).symm
  · exact evaluateObj_allowed cfg w.ev _ _ p h.rc

/-- **Status.** A policy denial is a 403 whose message names exactly the enforced level:version. -/
theorem C01_status (pv) (cfg : Config) (w : World Ev) (r : Request) (labels : Labels) (p : PodObj)
    (h : Evaluated cfg w r labels p) (hd : (validatePod pv cfg w r).1.allowed = false) :
    (validatePod pv cfg w r).1.code = 403 ∧
    (validatePod pv cfg w r).1.enforcedLV = some (policyToEvaluate pv labels cfg.defaults).1.enforce := by
  rw [validatePod_evaluated pv cfg w r labels p h] at hd ⊢
  split at hd
  · cases hd
  · next hfp =>
    rw [evaluateObj_eq cfg w.ev _ _ p true h.rc] at hd
    rw [if_neg hfp, evaluateObj_eq cfg w.ev _ _ p true h.rc]
    simp_all

/-- **Annotation.** Every such request carries the enforce-policy annotation naming the enforced level and,
    below privileged, the enforced version. -/
theorem C01_annotation (pv) (cfg : Config) (w : World Ev) (r : Request) (labels : Labels) (p : PodObj)
    (h : Evaluated cfg w r labels p) :
    ∃ lv, (validatePod pv cfg w r).1.annEnforce = some lv ∧
      lv.level = (policyToEvaluate pv labels cfg.defaults).1.enforce.level ∧
      (lv.level ≠ .privileged → lv = (policyToEvaluate pv labels cfg.defaults).1.enforce) := by
  rw [validatePod_evaluated pv cfg w r labels p h]
  split
  · next hfp =>
    simp only [Bool.and_eq_true, Policy.fullyPrivileged, beq_iff_eq] at hfp
    exact ⟨⟨.privileged, .latest⟩, rfl, hfp.2.1.1.symm, fun hne => absurd rfl hne⟩
  · refine ⟨(policyToEvaluate pv labels cfg.defaults).1.enforce, ?_, rfl, fun _ => rfl⟩
    rw [evaluateObj_eq cfg w.ev _ _ p true h.rc]; rfl

/-- **Composition with C02** (shipped evaluator, API-valid pod, restricted enforce level): allowed ⇔ the Standard. -/
theorem C01_standard_restricted (cfg : Config) (w : World Ev) (r : Request) (labels : Labels) (p : PodObj)
    (h : Evaluated cfg w r labels p)
    (hev : w.ev = fun lv x => evalPodModel Generated.tables false lv x.pod)
    (hl : (policyToEvaluate parseVersion labels cfg.defaults).1.enforce.level = .restricted)
    (hv : (policyToEvaluate parseVersion labels cfg.defaults).1.enforce.version.requestable)
    (hp : ApiValid p.pod) :
    (validatePod parseVersion cfg w r).1.allowed = true ↔
      Std.restricted Std.publishedTables (clampV 32 (policyToEvaluate parseVersion labels cfg.defaults).1.enforce.version) p.pod := by
  rw [C01_verdict parseVersion cfg w r labels p h (fun v x => by rw [hev]; exact evalPodModel_privileged _ false v x.pod), hev]
  generalize (policyToEvaluate parseVersion labels cfg.defaults).1.enforce = e at hl hv ⊢
  obtain ⟨l, v⟩ := e
  cases (hl : l = .restricted)
  exact C02_restricted_iff v p.pod hv hp

/-- non-vacuity: a privileged pod created in a namespace labelled enforce=restricted:v1.25 (all-privileged defaults, shipped
    evaluator) meets `Evaluated`; it is denied with 403 and carries the enforce-policy annotation restricted:v1.25 -/
example : Evaluated Ex.cfg (Ex.world Ex.restrictedLabels) (Ex.podCreate Ex.privPod) Ex.restrictedLabels Ex.privPod :=
  ⟨by decide, by decide, by decide, rfl, rfl, Or.inl rfl, by decide⟩
example : (validatePod parseVersion Ex.cfg (Ex.world Ex.restrictedLabels) (Ex.podCreate Ex.privPod)).1.allowed = false ∧
    (validatePod parseVersion Ex.cfg (Ex.world Ex.restrictedLabels) (Ex.podCreate Ex.privPod)).1.code = 403 ∧
    (validatePod parseVersion Ex.cfg (Ex.world Ex.restrictedLabels) (Ex.podCreate Ex.privPod)).1.annEnforce = some ⟨.restricted, .mm 1 25⟩ := by
  decide +kernel

#print axioms C01_verdict
#print axioms C01_status
#print axioms C01_annotation
#print axioms C01_standard_restricted
end PSA.Props
