import Psa.ApiProofs
/-! # C05 — namespace labels always resolve to a complete, fail-safe policy -/
namespace PSA.Props
open PSA

/-- levels parse only as the three exact names, and print back -/
theorem C05_level_iff (s : Str) :
    (parseLevel s).2 = true ↔ s = b!"privileged" ∨ s = b!"baseline" ∨ s = b!"restricted" := by
  constructor
  · intro h
    rcases parseLevel_cases s with ⟨l, rfl, _⟩ | he
    · cases l
      · exact .inl rfl
      · exact .inr (.inl rfl)
      · exact .inr (.inr rfl)
    · rw [he] at h; cases h
  · rintro (rfl | rfl | rfl) <;> rfl
theorem C05_level_roundtrip (s : Str) (h : (parseLevel s).2 = true) : (parseLevel s).1.str = s := by
  rcases parseLevel_cases s with ⟨l, rfl, he⟩ | he
  · rw [he]
  · rw [he] at h; cases h
theorem C05_level_print_parse (l : Level) : parseLevel l.str = (l, true) := by cases l <;> rfl
theorem C05_level_error_restricted (s : Str) (h : (parseLevel s).2 = false) : (parseLevel s).1 = .restricted :=
  parseLevel_err s h

theorem C05_version_print_parse (n : Nat) (hn : n ≤ maxInt64) : parseVersion (Ver.mm 1 n).str = (.mm 1 n, true) := by
  rw [ver_str_v1, parseVersion_v1, canonicalDec_itoa, digitsVal_itoa, decide_eq_true hn]
  rfl
/-- versions parse only as `latest` or canonical `v1.N` (N within int64, as strconv.Atoi demands) -/
theorem C05_version_iff (s : Str) :
    (parseVersion s).2 = true ↔ s = b!"latest" ∨ ∃ n, n ≤ maxInt64 ∧ s = b!"v1." ++ itoa n := by
  constructor
  · intro h
    rcases parseVersion_cases s with ⟨hl, _⟩ | ⟨_, d, hd, hc, hle, _⟩ | he
    · exact .inl hl
    · exact .inr ⟨digitsVal d, hle, by rw [itoa_digitsVal d hc]; exact hd⟩
    · rw [he] at h; cases h
  · rintro (rfl | ⟨n, hn, rfl⟩)
    · rfl
    · rw [← ver_str_v1, C05_version_print_parse n hn]
/-- … and print back to the string they were parsed from -/
theorem C05_version_roundtrip (s : Str) (h : (parseVersion s).2 = true) : (parseVersion s).1.str = s := by
  rcases parseVersion_cases s with ⟨hl, he⟩ | ⟨_, d, hd, hc, _, he⟩ | he
  · rw [he, hl]; rfl
  · rw [he, hd, ver_str_v1, itoa_digitsVal d hc]
  · rw [he] at h; cases h
theorem C05_version_error_latest (s : Str) (h : (parseVersion s).2 = false) : (parseVersion s).1 = .latest :=
  parseVersion_err s h

/-- The resolved policy, for all label maps and all defaults, is the one the property describes:
    absent label ⇒ default; unparsable enforce level ⇒ restricted; unparsable version ⇒ latest; unparsable audit / warn
    level ⇒ privileged; warn follows a valid, stricter enforce label when no warn level label exists (and its version
    unless a warn version label exists). (`policySpec`, `resolveLevel`, `resolveVersion`, `warnFollows` in ApiProofs.) -/
theorem C05_policy (labels : Labels) (d : Policy) :
    (policyToEvaluate parseVersion labels d).1 = policySpec labels d := by
  -- the condition under which `PolicyToEvaluate` lets warn follow enforce is `warnFollows`
  have follow : (!((labels.get kWarn).map (fun s => (parseLevel s, s))).isSome &&
        okOf ((labels.get kEnforce).map (fun s => (parseLevel s, s))) &&
        decide (compareLevels (resolveLevel true d.enforce.level (labels.get kEnforce))
          (resolveLevel false d.warn.level (labels.get kWarn)) > 0)) = warnFollows labels d := by
    unfold warnFollows
    cases labels.get kWarn with
    | some w => rfl
    | none =>
      cases labels.get kEnforce with
      | none => rfl
      | some s => cases h : (parseLevel s).2 <;> simp [okOf, resolveLevel, h]
  simp only [policyToEvaluate, policySpec, valOf_level, valOf_version, openLevel_level, follow]
  cases warnFollows labels d <;> cases labels.get kWarnV <;> rfl

/-- The error list is exactly the present-but-unparsable labels, each on its own key with its own value,
    in the fixed key order. -/
theorem C05_errors (labels : Labels) (d : Policy) :
    (policyToEvaluate parseVersion labels d).2 = errsSpec labels := by
  simp only [policyToEvaluate, errsSpec, errOf_level, errOf_version]

/-- Labels other than the six keys are irrelevant. -/
theorem C05_only_six (l₁ l₂ : Labels) (d : Policy)
    (h : ∀ k ∈ [kEnforce, kEnforceV, kAudit, kAuditV, kWarn, kWarnV], l₁.get k = l₂.get k) :
    policyToEvaluate parseVersion l₁ d = policyToEvaluate parseVersion l₂ d := by
  have h1 := h kEnforce (by simp); have h2 := h kEnforceV (by simp); have h3 := h kAudit (by simp)
  have h4 := h kAuditV (by simp); have h5 := h kWarn (by simp); have h6 := h kWarnV (by simp)
  simp only [policyToEvaluate, h1, h2, h3, h4, h5, h6]

/-- fail closed / fail open, spelled out -/
theorem C05_bad_enforce_restricted (labels : Labels) (d : Policy) (s : Str)
    (h : labels.get kEnforce = some s) (hb : (parseLevel s).2 = false) :
    (policyToEvaluate parseVersion labels d).1.enforce.level = .restricted :=
  enforce_bad_is_restricted parseVersion labels d s h hb

theorem C05_bad_enforce_version_latest (labels : Labels) (d : Policy) (s : Str)
    (h : labels.get kEnforceV = some s) (hb : (parseVersion s).2 = false) :
    (policyToEvaluate parseVersion labels d).1.enforce.version = .latest := by
  rw [C05_policy]; simp [policySpec, resolveVersion, h, hb]

theorem C05_bad_audit_privileged (labels : Labels) (d : Policy) (s : Str)
    (h : labels.get kAudit = some s) (hb : (parseLevel s).2 = false) :
    (policyToEvaluate parseVersion labels d).1.audit.level = .privileged :=
  audit_bad_is_privileged parseVersion labels d s h hb

theorem C05_bad_warn_privileged (labels : Labels) (d : Policy) (s : Str)
    (h : labels.get kWarn = some s) (hb : (parseLevel s).2 = false) :
    (policyToEvaluate parseVersion labels d).1.warn.level = .privileged := by
  rw [C05_policy]; simp [policySpec, resolveLevel, warnFollows, h, hb]

theorem C05_no_labels (d : Policy) : policyToEvaluate parseVersion [] d = (d, []) := by
  rfl

/-- non-vacuity: enforce=restricted with default warn=baseline and no warn label: warn follows enforce and its version -/
example : (policyToEvaluate parseVersion [(kEnforce, b!"restricted"), (kEnforceV, b!"v1.25")]
    ⟨⟨.privileged, .latest⟩, ⟨.privileged, .latest⟩, ⟨.baseline, .latest⟩⟩).1.warn = ⟨.restricted, .mm 1 25⟩ := by
  decide +kernel


/-- **`CompareLevels` is the strictness order** privileged < baseline < restricted: it is the comparison of the ranks 0, 1, 2
    (so it is antisymmetric and transitive, and "warn follows a stricter enforce" means exactly "a higher rank") -/
def levelRank : Level → Int
  | .privileged => 0 | .baseline => 1 | .restricted => 2

theorem C05_compare_is_rank (a b : Level) :
    (compareLevels a b < 0 ↔ levelRank a < levelRank b) ∧ (compareLevels a b = 0 ↔ a = b) ∧
    (compareLevels a b > 0 ↔ levelRank a > levelRank b) ∧ compareLevels b a = - compareLevels a b := by
  cases a <;> cases b <;> decide

#print axioms C05_level_iff
#print axioms C05_level_roundtrip
#print axioms C05_level_print_parse
#print axioms C05_level_error_restricted
#print axioms C05_version_iff
#print axioms C05_version_roundtrip
#print axioms C05_version_print_parse
#print axioms C05_version_error_latest
#print axioms C05_policy
#print axioms C05_errors
#print axioms C05_only_six
#print axioms C05_bad_enforce_restricted
#print axioms C05_bad_enforce_version_latest
#print axioms C05_bad_audit_privileged
#print axioms C05_bad_warn_privileged
#print axioms C05_no_labels
#print axioms C05_compare_is_rank
end PSA.Props

