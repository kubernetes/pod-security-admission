import Psa.Eval
import Psa.Generated.Tables
import Psa.ExpectedFacts
/-! # C19 — the user-namespace relaxation is opt-in and limited to three controls
The switch (`relaxPolicyForUserNamespacePods`) is the `relax` parameter of every model revision. -/
namespace PSA.Props
open PSA

/-- Switch off: `hostUsers` has no effect on any revision's result (structured result and message). -/
theorem C19_off (T : Tables) (r : RevId) (p : Pod) (h : Option Bool) :
    runRev T false r { p with hostUsers := h } = runRev T false r p := by
  cases r <;> rfl

/-- Switch on, `hostUsers` unset or true: every revision behaves exactly as with the switch off. -/
theorem C19_on_frame (T : Tables) (r : RevId) (p : Pod) (h : p.hostUsers ≠ some false) :
    runRev T true r p = runRev T false r p := by
  have hr : relaxed true p = false := by
    simp only [relaxed, Bool.true_and, beq_eq_false_iff_ne, ne_eq]; exact h
  have hr' : relaxed false p = false := rfl
  cases r <;> simp only [runRev, run, procMount_1_0, runAsNonRoot_1_0, runAsUser_1_23, hr, hr']

/-- Switch on, `hostUsers = false`: the three controls are waived … -/
theorem C19_on_three_waived (T : Tables) (p : Pod) (h : p.hostUsers = some false) :
    (runRev T true .procMount0 p).allowed = true ∧ (runRev T true .runAsNonRoot0 p).allowed = true ∧
    (runRev T true .runAsUser23 p).allowed = true := by
  have hr : relaxed true p = true := by simp [relaxed, h]
  simp [runRev, run, render_allowed, procMount_1_0, runAsNonRoot_1_0, runAsUser_1_23, hr, CheckOut.ok]

/-- … and every other revision is untouched, whatever `hostUsers` is. -/
theorem C19_on_others (T : Tables) (r : RevId) (p : Pod)
    (hr : r ≠ .procMount0 ∧ r ≠ .runAsNonRoot0 ∧ r ≠ .runAsUser23) :
    runRev T true r p = runRev T false r p := by
  obtain ⟨h1, h2, h3⟩ := hr
  cases r <;> first | contradiction | rfl

/-- Lifted to whole evaluations (every level, every version): without opt-in, `hostUsers` is irrelevant;
    with opt-in, pods that do not set `hostUsers=false` are evaluated exactly as without. -/
theorem C19_eval_off (lv : LevelVersion) (p : Pod) (h : Option Bool) :
    evalPodModel Generated.tables false lv { p with hostUsers := h } = evalPodModel Generated.tables false lv p := by
  simp only [evalPodModel, C19_off]

theorem C19_eval_on_frame (lv : LevelVersion) (p : Pod) (h : p.hostUsers ≠ some false) :
    evalPodModel Generated.tables true lv p = evalPodModel Generated.tables false lv p := by
  simp only [evalPodModel, C19_on_frame _ _ p h]

/-- **Opt-in means the administrator's last word**: whatever was set before, after `RelaxPolicyForUserNamespacePods(b)` the
    switch is `b` — the setting is not a count of requests, and earlier calls leave nothing behind. -/
theorem C19_switch_last_call (init : Bool) (calls : List Bool) (b : Bool) : switchAfter init (calls ++ [b]) = b :=
  switchAfter_append init calls b

/-- never opted in: the switch is off (the process starts with it off) -/
theorem C19_switch_initial : switchAfter false [] = false := rfl

/-- so, once the administrator's last call was `false`, `hostUsers` has no effect on any evaluation, whatever the history -/
theorem C19_off_after_history (calls : List Bool) (lv : LevelVersion) (p : Pod) (h : Option Bool) :
    evalPodModel Generated.tables (switchAfter false (calls ++ [false])) lv { p with hostUsers := h } =
    evalPodModel Generated.tables (switchAfter false (calls ++ [false])) lv p := by
  rw [switchAfter_append]; exact C19_eval_off lv p h

/-- non-vacuity: set twice, then unset: off -/
example : switchAfter false [true, true, false] = false := by decide

/-- non-vacuity: a pod on which the relaxation changes a verdict -/
example : (runRev Generated.tables false .runAsUser23 { hostUsers := some false, sc := some { runAsUser := some 0 } }).allowed = false ∧
          (runRev Generated.tables true .runAsUser23 { hostUsers := some false, sc := some { runAsUser := some 0 } }).allowed = true := by decide

/-- tie obligation (F4): exactly the three waived controls read `hostUsers` (through the gated helper) -/
theorem C19_only_three_read_hostUsers :
    Expected.readsHostUsers Generated.readSets = [b!"procMount", b!"runAsNonRoot", b!"runAsUser"] := by decide +kernel

/-- tie obligation (F9): in package `policy` the only write to long-lived state outside init is the setter storing its
    argument into the atomic.Bool (no counter, no compare-and-swap, no second variable) -/
theorem C19_switch_is_plain_store :
    Generated.stateWrites.filter (fun w => w.1 = b!"policy") =
      [(b!"policy", b!"policy.RelaxPolicyForUserNamespacePods", b!"call atomic.Bool).Store on shared:relaxPolicyForUserNamespacePods")] := by
  decide +kernel

#print axioms C19_off
#print axioms C19_switch_last_call
#print axioms C19_switch_initial
#print axioms C19_off_after_history
#print axioms C19_switch_is_plain_store
#print axioms C19_on_frame
#print axioms C19_on_three_waived
#print axioms C19_on_others
#print axioms C19_eval_off
#print axioms C19_eval_on_frame
#print axioms C19_only_three_read_hostUsers
end PSA.Props
