import Psa.DryRunProofs
import Psa.C03Bridge
import Psa.Examples
/-! # C11 — namespace label changes are validated and dry-run against existing pods -/
namespace PSA.Props
open PSA

/-- **Create**: rejected (422 Invalid, one cause per bad label) iff the labels are invalid. -/
theorem C11_create (pv) (cfg : Config) (lim : Limits) (w : World Ev) (r : Request) (name : Str) (labels : Labels)
    (h0 : r.sub = []) (hobj : r.obj = .ok (.ns name labels)) (hop : r.op = .create) :
    ((validateNamespace pv cfg lim w r).1.allowed = false ↔ (policyToEvaluate pv labels cfg.defaults).2 ≠ []) ∧
    ((validateNamespace pv cfg lim w r).1.allowed = false →
      (validateNamespace pv cfg lim w r).1.code = 422 ∧
      (validateNamespace pv cfg lim w r).1.fieldErrs = (policyToEvaluate pv labels cfg.defaults).2) := by
  simp only [validateNamespace, h0, hobj, hop, ne_eq, not_true_eq_false, ↓reduceIte]
  cases he : (policyToEvaluate pv labels cfg.defaults).2 with
  | nil =>
    simp only [List.isEmpty_nil, Bool.not_true, Bool.false_eq_true, ↓reduceIte, not_true_eq_false, iff_false,
      Bool.not_eq_false]
    split
    · simp only [exemptNsResp]; split <;> simp [allowPlain]
    · simp [allowPlain]
  | cons a l => simp [invalidResp]

/-- **Update**: rejected iff the new labels are invalid and were not invalid in exactly the same way before. -/
theorem C11_update (pv) (cfg : Config) (lim : Limits) (w : World Ev) (r : Request) (name oname : Str) (labels oldLabels : Labels)
    (h0 : r.sub = []) (hobj : r.obj = .ok (.ns name labels)) (hold : r.old = .ok (.ns oname oldLabels)) (hop : r.op = .update) :
    (validateNamespace pv cfg lim w r).1.allowed = false ↔
      ((policyToEvaluate pv labels cfg.defaults).2 ≠ [] ∧
       ((policyToEvaluate pv oldLabels cfg.defaults).2 = [] ∨
        (policyToEvaluate pv labels cfg.defaults).2 ≠ (policyToEvaluate pv oldLabels cfg.defaults).2)) := by
  simp only [validateNamespace, h0, hobj, hold, hop, ne_eq, not_true_eq_false, ↓reduceIte]
  by_cases hc : (!(policyToEvaluate pv labels cfg.defaults).2.isEmpty &&
      ((policyToEvaluate pv oldLabels cfg.defaults).2.isEmpty ||
        (policyToEvaluate pv labels cfg.defaults).2 != (policyToEvaluate pv oldLabels cfg.defaults).2)) = true
  · simp only [hc, ↓reduceIte, invalidResp, true_iff]
    simpa [List.isEmpty_iff] using hc
  · simp only [hc, Bool.false_eq_true, ↓reduceIte]
    have hc' : ¬ ((policyToEvaluate pv labels cfg.defaults).2 ≠ [] ∧
       ((policyToEvaluate pv oldLabels cfg.defaults).2 = [] ∨
        (policyToEvaluate pv labels cfg.defaults).2 ≠ (policyToEvaluate pv oldLabels cfg.defaults).2)) := by
      simpa [List.isEmpty_iff] using hc
    simp only [hc', iff_false, Bool.not_eq_false]
    split
    · rfl
    · split
      · simp only [exemptNsResp]; split <;> rfl
      · split <;> rfl

/-- **Never rejected because of the pods it contains** (nor because of listing faults, expiry or remaining time). -/
theorem C11_never_pods (pv) (cfg : Config) (lim : Limits) (w w' : World Ev) (r : Request) :
    (validateNamespace pv cfg lim w r).1.allowed = (validateNamespace pv cfg lim w' r).1.allowed ∧
    (validateNamespace pv cfg lim w r).1.code = (validateNamespace pv cfg lim w' r).1.code :=
  validateNamespace_verdict pv cfg lim w w' r

/-- **When the dry run runs**: the pods are listed iff the labels are acceptable, the enforce policy changed, the new level
    is not privileged, it is not a relaxation at the same version, and the namespace is not exempt. -/
theorem C11_dryrun_when (pv) (cfg : Config) (lim : Limits) (w : World Ev) (r : Request) (name oname : Str) (labels oldLabels : Labels)
    (h0 : r.sub = []) (hobj : r.obj = .ok (.ns name labels)) (hold : r.old = .ok (.ns oname oldLabels)) (hop : r.op = .update)
    (hvalid : (validateNamespace pv cfg lim w r).1.allowed = true) :
    (validateNamespace pv cfg lim w r).2.listCalls = 1 ↔
      (skipDryRun (policyToEvaluate pv labels cfg.defaults).1.enforce (policyToEvaluate pv oldLabels cfg.defaults).1.enforce = false ∧
       exempt r.ns cfg.exNamespaces = false) := by
  simp only [validateNamespace, h0, hobj, hold, hop, ne_eq, not_true_eq_false, ↓reduceIte] at hvalid ⊢
  split at hvalid
  · cases hvalid
  · next hc =>
    rw [if_neg hc]
    cases skipDryRun (policyToEvaluate pv labels cfg.defaults).1.enforce (policyToEvaluate pv oldLabels cfg.defaults).1.enforce <;>
      cases exempt r.ns cfg.exNamespaces <;> simp
    split <;> rfl

/-- the skip rule, spelled out as in the property -/
theorem C11_skip_rule (newE oldE : LevelVersion) :
    skipDryRun newE oldE = true ↔
      newE = oldE ∨ newE.level = .privileged ∨ (newE.version = oldE.version ∧ compareLevels newE.level oldE.level ≤ 0) := by
  simp only [skipDryRun, Bool.or_eq_true, beq_iff_eq, Bool.and_eq_true, decide_eq_true_eq, or_assoc]
  constructor <;> (rintro (h | h | ⟨h1, h2⟩) <;> simp_all <;> omega)

/-- **Skipping is sound** (with C03): whenever the rule skips the dry run, no existing API-valid pod that satisfied the
    old enforce policy can violate the new one (shipped evaluator; versions as `ParseVersion` produces them). -/
theorem C11_skip_sound (newE oldE : LevelVersion) (p : Pod)
    (hs : skipDryRun newE oldE = true) (hv : oldE.version.requestable) (hp : ApiValid p)
    (hold : (aggregate (evalPodModel Generated.tables false oldE p)).allowed = true) :
    (aggregate (evalPodModel Generated.tables false newE p)).allowed = true := by
  obtain ⟨nl, nv⟩ := newE
  obtain ⟨ol, ov⟩ := oldE
  rcases (C11_skip_rule _ _).mp hs with h | h | ⟨hver, hlv⟩
  · rw [h]; exact hold
  · cases (h : nl = .privileged); rfl
  · cases (hver : nv = ov)
    exact relaxing_level false ol nl nv p hv hp hlv hold

/-- **Completeness**: the pod lines are one per distinct aggregate reason text among the evaluated violating pods, with the
    lexically first pod name and the exact count, sorted; and the first name really is a least element of the group. -/
theorem C11_complete (ev : Ev) (exRC : List Str) (maxPods : Nat) (ns : Str) (lv : LevelVersion) (pods : List PodObj)
    (e : Option Nat) :
    (dryRun ev exRC maxPods ns lv pods e).1.filterMap (fun w => match w with | .podLine t => some t | _ => none) =
      sortStrs ((groupsSpec (dryRunViolations ev lv (dryRunEvaluated exRC maxPods pods e))).map decorate) :=
  dryRun_lines ev exRC maxPods ns lv pods e

theorem C11_first_is_least (l : List Str) (hl : l ≠ []) : firstOf l ∈ l ∧ ∀ x ∈ l, firstOf l ≤ x := firstOf_spec l hl

/-- with no cap hit and no expiry every non-exempt pod is evaluated … -/
theorem C11_all_evaluated (exRC : List Str) (maxPods : Nat) (pods : List PodObj)
    (hcap : (prioritize exRC pods).length ≤ maxPods) :
    (dryRunEvaluated exRC maxPods pods none).Perm (pods.filter (fun p => !exemptRC p.runtimeClass exRC)) := by
  rw [dryRunEvaluated_all exRC maxPods pods hcap]; exact prioritize_perm exRC pods

/-- … and the warnings are **independent of the listing order**. -/
theorem C11_order_independent (ev : Ev) (exRC : List Str) (maxPods : Nat) (ns : Str) (lv : LevelVersion) (pods pods' : List PodObj)
    (h : pods.Perm pods') (hcap : (pods.filter (fun p => !exemptRC p.runtimeClass exRC)).length ≤ maxPods) :
    (dryRun ev exRC maxPods ns lv pods none).1 = (dryRun ev exRC maxPods ns lv pods' none).1 := by
  have hp : (prioritize exRC pods).Perm (prioritize exRC pods') :=
    (prioritize_perm exRC pods).trans ((h.filter _).trans (prioritize_perm exRC pods').symm)
  have hl : (prioritize exRC pods).length = (prioritize exRC pods').length := hp.length_eq
  have hc1 : (prioritize exRC pods).length ≤ maxPods := by rw [(prioritize_perm exRC pods).length_eq]; exact hcap
  have hc2 : (prioritize exRC pods').length ≤ maxPods := by rw [← hl]; exact hc1
  simp only [dryRun, dryRunEvaluated_all exRC maxPods pods hc1, dryRunEvaluated_all exRC maxPods pods' hc2]
  have hg := groupsLoop_perm _ _ (dryRunViolations_perm ev lv _ _ hp)
  rw [hl, sortStrs_eq_of_perm _ _ (hg.map decorate), hg.isEmpty_eq]

/-- non-vacuity: a namespace update from no labels to enforce=restricted:v1.25 over a population of a privileged and a plain pod:
    allowed, one listing, a header and two pod lines; the same update to a malformed level is a 422 -/
example : (validateNamespace parseVersion Ex.cfg Ex.lim (Ex.world [] [Ex.privPod, Ex.plainPod]) (Ex.nsUpdate Ex.restrictedLabels [])).1.allowed = true ∧
    (validateNamespace parseVersion Ex.cfg Ex.lim (Ex.world [] [Ex.privPod, Ex.plainPod]) (Ex.nsUpdate Ex.restrictedLabels [])).2.listCalls = 1 ∧
    (validateNamespace parseVersion Ex.cfg Ex.lim (Ex.world [] [Ex.privPod, Ex.plainPod]) (Ex.nsUpdate Ex.restrictedLabels [])).1.warnings.length = 3 := by
  decide +kernel
example : (validateNamespace parseVersion Ex.cfg Ex.lim (Ex.world []) (Ex.nsUpdate Ex.badLabels [])).1.code = 422 := by decide +kernel

#print axioms C11_create
#print axioms C11_update
#print axioms C11_never_pods
#print axioms C11_dryrun_when
#print axioms C11_skip_rule
#print axioms C11_skip_sound
#print axioms C11_complete
#print axioms C11_first_is_least
#print axioms C11_all_evaluated
#print axioms C11_order_independent
end PSA.Props
