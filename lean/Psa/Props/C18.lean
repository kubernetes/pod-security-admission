import Psa.MetricsCache
import Psa.AdmitProps
import Psa.Metrics
import Psa.NamespaceProofs
import Psa.Examples
/-! # C18 — metrics count every decision exactly once, with bounded label values
`Eff.metrics` is the list of Recorder calls of one request. -/
namespace PSA.Props
open PSA

def isEnforceEval : Metric → Bool | .eval _ _ m => m == 0 | .exemption => false | .error _ => false
def isAuditDeny : Metric → Bool | .eval a _ m => !a && m == 1 | .exemption => false | .error _ => false
def isWarnDeny : Metric → Bool | .eval a _ m => !a && m == 2 | .exemption => false | .error _ => false
def isExemption : Metric → Bool | .eval _ _ _ => false | .exemption => true | .error _ => false
def isError : Metric → Bool | .eval _ _ _ => false | .exemption => false | .error _ => true
@[simp] theorem isEnforceEval_eval (a lv m) : isEnforceEval (.eval a lv m) = (m == 0) := rfl
@[simp] theorem isEnforceEval_ex : isEnforceEval .exemption = false := rfl
@[simp] theorem isEnforceEval_err (f) : isEnforceEval (.error f) = false := rfl
@[simp] theorem isAuditDeny_eval (a lv m) : isAuditDeny (.eval a lv m) = (!a && m == 1) := rfl
@[simp] theorem isAuditDeny_ex : isAuditDeny .exemption = false := rfl
@[simp] theorem isAuditDeny_err (f) : isAuditDeny (.error f) = false := rfl
@[simp] theorem isWarnDeny_eval (a lv m) : isWarnDeny (.eval a lv m) = (!a && m == 2) := rfl
@[simp] theorem isWarnDeny_ex : isWarnDeny .exemption = false := rfl
@[simp] theorem isWarnDeny_err (f) : isWarnDeny (.error f) = false := rfl
@[simp] theorem isExemption_eval (a lv m) : isExemption (.eval a lv m) = false := rfl
@[simp] theorem isExemption_ex : isExemption .exemption = true := rfl
@[simp] theorem isExemption_err (f) : isExemption (.error f) = false := rfl
@[simp] theorem isError_eval (a lv m) : isError (.eval a lv m) = false := rfl
@[simp] theorem isError_ex : isError .exemption = false := rfl
@[simp] theorem isError_err (f) : isError (.error f) = true := rfl
def cnt (f : Metric → Bool) (ms : List Metric) : Nat := (ms.filter f).length
def b2n (b : Bool) : Nat := if b then 1 else 0

/-- what one request must have recorded, given what its response shows -/
structure ExactlyOnce (resp : Resp) (ms : List Metric) : Prop where
  enforce : cnt isEnforceEval ms = b2n resp.annEnforce.isSome
  decision : ∀ a lv, Metric.eval a lv 0 ∈ ms → a = resp.allowed
  exemption : cnt isExemption ms = b2n resp.annExempt.isSome
  error : cnt isError ms = b2n resp.annError
  audit : cnt isAuditDeny ms = b2n resp.annAudit.isSome
  warn : cnt isWarnDeny ms = b2n (!resp.warnings.isEmpty)
  nothingElse : ms.length = cnt isEnforceEval ms + cnt isExemption ms + cnt isError ms + cnt isAuditDeny ms + cnt isWarnDeny ms

theorem cnt_nil (f : Metric → Bool) : cnt f [] = 0 := rfl
theorem cnt_singleton (f : Metric → Bool) (m : Metric) : cnt f [m] = b2n (f m) := by cases h : f m <;> simp [cnt, b2n, h]
theorem cnt_append (f : Metric → Bool) (l₁ l₂ : List Metric) : cnt f (l₁ ++ l₂) = cnt f l₁ + cnt f l₂ := by simp [cnt]
theorem cnt_ite (f : Metric → Bool) (c : Prop) [Decidable c] (l₁ l₂ : List Metric) :
    cnt f (if c then l₁ else l₂) = if c then cnt f l₁ else cnt f l₂ := apply_ite ..

theorem evaluateObj_exactlyOnce (ev : Ev) (cfg : Config) (pol : Policy) (e : Bool) (p : PodObj) (enf : Bool) :
    ExactlyOnce (evaluateObj ev cfg pol e p enf).1 (evaluateObj ev cfg pol e p enf).2.metrics := by
  cases hrc : exemptRC p.runtimeClass cfg.exRuntimeClasses
  · -- each of the four segments of `evaluateObj_eq`'s metrics is counted by exactly one of the five tests
    rw [evaluateObj_eq cfg ev pol e p enf hrc]
    constructor <;> simp [cnt_append, cnt_ite, cnt_singleton, cnt_nil, b2n, apply_ite List.length]
    case decision => exact ⟨fun _ h1 h2 _ => ⟨h1, h2⟩, fun _ _ h _ => .inr h⟩
    case audit => cases (aggregate (ev pol.audit p)).allowed <;> rfl
    case nothingElse => omega
  · rw [evaluateObj_exempt_eq cfg ev pol e p enf hrc]
    exact ⟨rfl, by simp, rfl, rfl, rfl, rfl, rfl⟩

/-- **Pods**: every pod request records exactly what its response shows — one enforce evaluation (with the response's
    decision) iff the enforce-policy annotation is present, one exemption iff exempted, one error iff flagged, an audit
    (warn) denial iff the audit annotation (a warning) is present, and nothing else; in particular nothing for ignored ones. -/
theorem C18_pod (pv) (cfg : Config) (w : World Ev) (r : Request) :
    ExactlyOnce (validatePod pv cfg w r).1 (validatePod pv cfg w r).2.metrics := by
  have ho := validatePod_outcome pv cfg w r
  generalize validatePod pv cfg w r = out at ho ⊢
  cases ho with
  | evaluated => exact evaluateObj_exactlyOnce _ _ _ _ _ _
  | _ => exact ⟨rfl, by simp, rfl, rfl, rfl, rfl, rfl⟩

/-- **Controllers** likewise (never an enforce evaluation). -/
theorem C18_controller (pv) (cfg : Config) (w : World Ev) (r : Request) :
    ExactlyOnce (validateController pv cfg w r).1 (validateController pv cfg w r).2.metrics := by
  have ho := validateController_outcome pv cfg w r
  generalize validateController pv cfg w r = out at ho ⊢
  cases ho with
  | evaluated => exact evaluateObj_exactlyOnce _ _ _ _ _ _
  | _ => exact ⟨rfl, by simp, rfl, rfl, rfl, rfl, rfl⟩

/-- **Namespaces** record nothing. -/
theorem C18_namespace (pv) (cfg : Config) (lim : Limits) (w : World Ev) (r : Request) :
    (validateNamespace pv cfg lim w r).2.metrics = [] := by
  rcases validateNamespace_decision pv cfg r with ⟨_, h⟩ | ⟨_, _, h⟩ <;> rw [h] <;> rfl

/-- **Bounded label**: whatever level:version a namespace chose, the policy_version label is `latest`, `future`, or the
    string of a version not newer than the server's. -/
theorem C18_label_bounded (server : Ver) (lv : LevelVersion) :
    versionLabel server lv = b!"latest" ∨ versionLabel server lv = b!"future" ∨
    (versionLabel server lv = lv.version.str ∧ server.older lv.version = false) := by
  unfold versionLabel
  split
  · exact Or.inl rfl
  · split
    · next h => exact Or.inr (Or.inr ⟨rfl, by simpa using h⟩)
    · exact Or.inr (Or.inl rfl)

/-- for a server at v1.M that means at most M+3 distinct values -/
theorem C18_label_finite (M : Nat) (lv : LevelVersion) (hv : lv.version = .latest ∨ ∃ n, lv.version = .mm 1 n) :
    versionLabel (.mm 1 M) lv ∈ b!"latest" :: b!"future" :: (List.range (M + 1)).map (fun n => (Ver.mm 1 n).str) := by
  rcases C18_label_bounded (.mm 1 M) lv with h | h | ⟨h, hold⟩
  · rw [h]; exact List.mem_cons_self ..
  · rw [h]; exact List.mem_cons_of_mem _ (List.mem_cons_self ..)
  · rcases hv with hl | ⟨n, hn⟩
    · rw [h, hl]; simp [Ver.str]
    · rw [h, hn]
      rw [hn] at hold
      simp only [Ver.older, ne_eq, not_true_eq_false, ↓reduceIte, decide_eq_false_iff_not, Nat.not_lt] at hold
      refine List.mem_cons_of_mem _ (List.mem_cons_of_mem _ (List.mem_map.mpr ⟨n, ?_, rfl⟩))
      simp; omega

/-- **Exact counts under any interleaving**: each series' total is its number of recordings, so totals are invariant under
    permutation of the recordings; and after a reset every series is zero. -/
theorem C18_counts (c : Counters) (events : List (List Str)) (k : List Str) :
    (recordAll c events).get k = c.get k + (events.filter (· = k)).length := by
  induction events generalizing c with
  | nil => simp [recordAll]
  | cons e es ih =>
    simp only [recordAll, List.foldl_cons] at ih ⊢
    rw [ih, Counters.get_inc]
    by_cases h : e = k <;> simp [h] <;> omega

theorem C18_counts_perm (c : Counters) (e₁ e₂ : List (List Str)) (h : e₁.Perm e₂) (k : List Str) :
    (recordAll c e₁).get k = (recordAll c e₂).get k := by
  rw [C18_counts, C18_counts, (h.filter _).length_eq]

theorem C18_reset (c : Counters) (k : List Str) : (c.reset).get k = 0 := rfl

/-- the label tuples the two cached counter vectors pre-populate (metrics.go `populateCache`) -/
def evalToCache : List (List Str) :=
  [[b!"allow", b!"privileged", b!"latest", b!"enforce", b!"create", b!"pod", b!""],
   [b!"allow", b!"privileged", b!"latest", b!"enforce", b!"update", b!"pod", b!""]]
def exemptToCache : List (List Str) :=
  [[b!"create", b!"pod", b!""], [b!"update", b!"pod", b!""], [b!"create", b!"controller", b!""], [b!"update", b!"controller", b!""]]

/-- **The handle cache is transparent**: the counter vector behind a cache of pre-created handles (`CachedInc`, `Reset` with
    `populateCache`) shows, after every history of recordings and resets and for every label tuple — cached or not — exactly
    what a plain counter map emptied by each reset shows. Whatever tuples are cached. -/
theorem C18_cache_refines (toCache : List (List Str)) (ops : List MetricsCache.Op) (k : List Str) :
    MetricsCache.count (MetricsCache.run toCache (MetricsCache.init toCache) ops) k = (MetricsCache.specRun [] ops).get k :=
  (MetricsCache.run_refines toCache _ [] ops (MetricsCache.reset_spec toCache _).1 (MetricsCache.reset_spec toCache _).2).2 k

/-- so after a reset a series restarts from zero and then counts every later recording exactly once -/
theorem C18_cache_after_reset (toCache : List (List Str)) (before after : List (List Str)) (k : List Str) :
    MetricsCache.count (MetricsCache.run toCache (MetricsCache.init toCache)
      (before.map .inc ++ [.reset] ++ after.map .inc)) k = (after.filter (· = k)).length := by
  rw [C18_cache_refines]
  simp only [MetricsCache.specRun, List.foldl_append, List.foldl_cons, List.foldl_nil, MetricsCache.specStep]
  have h (c : Counters) (l : List (List Str)) : List.foldl MetricsCache.specStep c (l.map .inc) = recordAll c l :=
    List.foldl_map
  rw [h, h, C18_counts]
  simp [Counters.reset, Counters.get]

/-- a cache that survived a reset would lose recordings (the shape of seeded change C18-b): record, reset, record shows 0 -/
theorem C18_stale_cache_witness :
    let k : List Str := [b!"create", b!"pod", b!""]
    MetricsCache.count (MetricsCache.inc (MetricsCache.resetKeepingCache (MetricsCache.inc (MetricsCache.init [k]) k)) k) k = 0 ∧
    (MetricsCache.specRun [] [.inc k, .reset, .inc k]).get k = 1 := by decide +kernel

/-- non-vacuity: the denial of a privileged pod under enforce=restricted records exactly one enforce evaluation (deny), one
    audit denial and no warning denial (denied requests carry no warning); the exempt-runtime-class pod records one exemption -/
example : (validatePod parseVersion Ex.cfg (Ex.world Ex.restrictedLabels) (Ex.podCreate Ex.privPod)).2.metrics =
    [.eval false ⟨.restricted, .mm 1 25⟩ 0, .eval false ⟨.baseline, .latest⟩ 1] ∧
    (validatePod parseVersion Ex.cfg (Ex.world Ex.restrictedLabels) (Ex.podCreate Ex.kataPod)).2.metrics = [.exemption] := by decide +kernel
example : versionLabel (.mm 1 30) ⟨.restricted, .mm 1 25⟩ = b!"v1.25" ∧ versionLabel (.mm 1 30) ⟨.restricted, .mm 1 99⟩ = b!"future" ∧
    versionLabel (.mm 1 30) ⟨.privileged, .mm 1 99⟩ = b!"latest" := by decide +kernel

#print axioms C18_pod
#print axioms C18_controller
#print axioms C18_namespace
#print axioms C18_label_bounded
#print axioms C18_label_finite
#print axioms C18_counts
#print axioms C18_counts_perm
#print axioms C18_reset
#print axioms C18_cache_refines
#print axioms C18_cache_after_reset
#print axioms C18_stale_cache_witness
end PSA.Props
