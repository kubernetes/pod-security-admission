import Psa.RegistryProofs
import Psa.Shipped
import Psa.ValidateProofs
/-! # C04 — a pinned policy version runs exactly the check revisions of that version
`populate` / `inflate` / `evaluate` are the loop-level model of policy/registry.go; `spec` (Psa/RegistrySpec.lean) is the
resolution rule stated outright: per check introduced at or before V the last revision with minimum ≤ V; baseline ids
(sorted) then restricted ids (sorted); baseline ids overridden by a selected restricted revision dropped. -/
namespace PSA.Props
open PSA

/-- For every well-formed check set, level and requested version: the registry returns what the rule says,
    at the version clamped to the newest registered revision. Generic in the payload type. -/
theorem C04_resolves {α : Type} (cs : List (Check α)) (hwf : WellFormed cs) (l : Level) (v : Ver)
    (hv : v = .latest ∨ ∃ n, v = .mm 1 n) :
    (populate cs).evaluate l v = spec cs l (clampV (maxVersionOf cs).minor v) := PSA.C04_resolves cs hwf l v hv

/-- privileged runs nothing -/
theorem C04_privileged {α : Type} (cs : List (Check α)) (v : Ver) : (populate cs).evaluate .privileged v = [] := rfl

/-- `latest` and every version at or beyond the newest registered revision behave as that newest version -/
theorem C04_latest_is_newest {α : Type} (cs : List (Check α)) (hwf : WellFormed cs) (l : Level) (n : Nat)
    (hn : (maxVersionOf cs).minor ≤ n) :
    (populate cs).evaluate l (.mm 1 n) = (populate cs).evaluate l .latest := by
  rw [C04_resolves cs hwf l _ (Or.inr ⟨n, rfl⟩), C04_resolves cs hwf l _ (Or.inl rfl)]
  simp only [clampV]
  congr 1
  omega

/-- a version with a later major number (`api.MajorMinorVersion(2, n)`, what `api.GetAPIVersion` would return for a v2 server) is
    newer than every registered revision and behaves as the newest registered version … -/
theorem C04_later_major {α : Type} (cs : List (Check α)) (hwf : WellFormed cs) (l : Level) (a n : Nat) (ha : 1 < a) :
    (populate cs).evaluate l (.mm a n) = (populate cs).evaluate l .latest := PSA.C04_later_major cs hwf l a n ha

/-- … and one with major 0 is older than every registered revision: no check was introduced yet, nothing runs -/
theorem C04_earlier_major {α : Type} (cs : List (Check α)) (hwf : WellFormed cs) (l : Level) (n : Nat) :
    (populate cs).evaluate l (.mm 0 n) = [] := PSA.C04_earlier_major cs hwf l n

/-- the shipped check set is accepted by the (model of the) validator -/
theorem C04_shipped_accepted : validateChecks shipped = true := by decide +kernel

/-- **refusal**: on the domain where every registered revision version is `latest`, the zero value or `v1.N` (all that
    `api.LatestVersion`, `api.Version{}` and `api.MajorMinorVersion(1, _)` can produce), the validator accepts a check set
    if and only if it is well formed: distinct ids, level baseline or restricted, at least one revision, every revision
    version a proper `v1.N` (not unset, not latest), strictly increasing, overrides only on restricted checks and only
    of baseline checks (or of ids that are not registered). -/
theorem C04_refuses {α : Type} (cs : List (Check α)) (hd : OneMajorDomain cs) : validateChecks cs = true ↔ WellFormed cs := by
  unfold validateChecks
  simp only [Bool.and_eq_true, pass1_iff cs [] hd, List.not_mem_nil, not_false_eq_true, implies_true, and_true]
  -- the second pass looks the overridden id up with `find?`, i.e. `findCheck`; ids are distinct, so it finds the check
  constructor
  · rintro ⟨⟨h1, h2, h3, h4, h5⟩, h6⟩
    refine ⟨h1, h2, h3, h4, h5, fun c hc r hr hne => ?_⟩
    have := List.all_eq_true.mp (List.all_eq_true.mp h6 c hc) r hr
    simp only [Bool.or_eq_true, List.isEmpty_iff, hne, false_or, Bool.and_eq_true, beq_iff_eq, List.all_eq_true] at this
    refine ⟨this.1, fun o ho c' hc' hid => ?_⟩
    have hf : cs.find? (fun x => x.id == o) = some c' := hid ▸ findCheck_of_mem cs h1 c' hc'
    simpa [hf] using this.2 o ho
  · intro hwf
    refine ⟨⟨hwf.ids, hwf.levels, hwf.nonempty, hwf.major, hwf.increasing⟩, ?_⟩
    refine List.all_eq_true.mpr fun c hc => List.all_eq_true.mpr fun r hr => ?_
    by_cases hne : r.overrides = []
    · simp [hne]
    · obtain ⟨hl, ho⟩ := hwf.overrides c hc r hr hne
      simp only [Bool.or_eq_true, List.isEmpty_iff, hne, false_or, Bool.and_eq_true, beq_iff_eq, hl, true_and, List.all_eq_true]
      intro o ho'
      cases hf : cs.find? (fun x => x.id == o) with
      | none => rfl
      | some c' =>
        obtain ⟨hm, hid⟩ := findCheck_some cs o c' hf
        simp [ho o ho' c' hm hid]

/-- so that whatever the validator accepts resolves by the rule -/
theorem C04_accepted_resolves {α : Type} (cs : List (Check α)) (hd : OneMajorDomain cs) (hok : validateChecks cs = true)
    (l : Level) (v : Ver) (hv : v = .latest ∨ ∃ n, v = .mm 1 n) :
    (populate cs).evaluate l v = spec cs l (clampV (maxVersionOf cs).minor v) :=
  PSA.C04_resolves cs ((C04_refuses cs hd).mp hok) l v hv

/-- non-vacuity: the demo set is in the domain and accepted; each kind of malformed set of the property text is refused -/
example : validateChecks demo = true := by decide +kernel
example : validateChecks (demo ++ demo.take 1) = false := by decide +kernel  -- duplicate id
example : validateChecks [({ id := b!"x", level := .baseline, revs := [] } : Check String)] = false := by decide  -- no revision
example : validateChecks [({ id := b!"x", level := .baseline, revs := [⟨.unset, "f", []⟩] } : Check String)] = false := by decide
example : validateChecks [({ id := b!"x", level := .baseline, revs := [⟨.latest, "f", []⟩] } : Check String)] = false := by decide
example : validateChecks [({ id := b!"x", level := .baseline, revs := [⟨.mm 1 3, "f", []⟩, ⟨.mm 1 3, "g", []⟩] } : Check String)] = false := by decide
example : validateChecks [({ id := b!"x", level := .baseline, revs := [⟨.mm 1 3, "f", []⟩, ⟨.mm 1 2, "g", []⟩] } : Check String)] = false := by decide
example : validateChecks [({ id := b!"x", level := .privileged, revs := [⟨.mm 1 0, "f", []⟩] } : Check String)] = false := by decide
example : validateChecks [({ id := b!"x", level := .other, revs := [⟨.mm 1 0, "f", []⟩] } : Check String)] = false := by decide
example : validateChecks [({ id := b!"x", level := .baseline, revs := [⟨.mm 1 0, "f", [b!"y"]⟩] } : Check String)] = false := by decide  -- override by baseline
example : validateChecks [({ id := b!"x", level := .restricted, revs := [⟨.mm 1 0, "f", [b!"y"]⟩] } : Check String),
                          { id := b!"y", level := .restricted, revs := [⟨.mm 1 0, "g", []⟩] }] = false := by decide  -- override of restricted

/-- non-vacuity: a well-formed set with an override, and what it resolves to -/
example : (populate demo).evaluate .restricted (.mm 1 19) = spec demo .restricted 19 := by decide +kernel


/-- **`Older` is a strict order with `latest` on top** (the comparison every clamp and every revision look-up rests on):
    `latest` is older than nothing, every other version is older than `latest`; nothing is older than itself; the relation is
    transitive; and any two different non-latest versions are comparable. -/
theorem C04_older_order :
    (∀ v, Ver.older .latest v = false) ∧ (∀ a b, Ver.older (.mm a b) .latest = true) ∧ (∀ v, Ver.older v v = false) ∧
    (∀ u v w, Ver.older u v = true → Ver.older v w = true → Ver.older u w = true) ∧
    (∀ u v, u ≠ v → Ver.older u v = true ∨ Ver.older v u = true) := by
  refine ⟨fun v => rfl, fun a b => rfl, ?_, ?_, ?_⟩
  · intro v
    cases v with
    | latest => rfl
    | mm a b => simp [Ver.older]
  · intro u v w huv hvw
    cases u with
    | latest => cases huv
    | mm a b =>
      cases v with
      | latest => cases hvw
      | mm c d =>
        cases w with
        | latest => rfl
        | mm e f => rw [Ver.older_mm] at huv hvw ⊢; omega
  · intro u v hne
    cases u with
    | latest =>
      cases v with
      | latest => exact absurd rfl hne
      | mm c d => exact .inr rfl
    | mm a b =>
      cases v with
      | latest => exact .inl rfl
      | mm c d =>
        have : ¬ (a = c ∧ b = d) := fun ⟨h1, h2⟩ => hne (by rw [h1, h2])
        rw [Ver.older_mm, Ver.older_mm]; omega

#print axioms C04_older_order
#print axioms C04_resolves
#print axioms C04_privileged
#print axioms C04_latest_is_newest
#print axioms C04_later_major
#print axioms C04_earlier_major
#print axioms C04_shipped_accepted
#print axioms C04_refuses
#print axioms C04_accepted_resolves
end PSA.Props
