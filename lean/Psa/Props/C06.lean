import Psa.AdmitProps
import Psa.NamespaceProofs
import Psa.Examples
/-! # C06 — exemptions match exactly and are the only configured bypass -/
namespace PSA.Props
open PSA

/-- exact, non-empty match: no prefix, case-folded or cross-list match (each list is consulted only for its own dimension) -/
theorem C06_exact (s : Str) (l : List Str) : exempt s l = true ↔ s ≠ [] ∧ s ∈ l := by
  simp [exempt]

theorem C06_exact_rc (rc : Option Str) (l : List Str) : exemptRC rc l = true ↔ ∃ s, rc = some s ∧ s ≠ [] ∧ s ∈ l := by
  cases rc <;> simp [exemptRC, exempt]

/-- evaluateObj marks "runtimeClass" only on a runtime-class match, and then allows without evaluating -/
theorem evaluateObj_exempt (ev : Ev) (cfg : Config) (pol : Policy) (e : Bool) (p : PodObj) (enf : Bool) (d : Str)
    (h : (evaluateObj ev cfg pol e p enf).1.annExempt = some d) :
    d = b!"runtimeClass" ∧ exemptRC p.runtimeClass cfg.exRuntimeClasses = true := by
  cases hrc : exemptRC p.runtimeClass cfg.exRuntimeClasses
  · rw [evaluateObj_eq cfg ev pol e p enf hrc] at h; cases h
  · rw [evaluateObj_exempt_eq cfg ev pol e p enf hrc] at h; exact ⟨(Option.some.inj h).symm, rfl⟩

/-- **Only bypass (pods).** An `exempt` annotation appears only when the named dimension matches exactly. -/
theorem C06_only_pod (pv) (cfg : Config) (w : World Ev) (r : Request) (d : Str)
    (h : (validatePod pv cfg w r).1.annExempt = some d) :
    (d = b!"namespace" ∧ exempt r.ns cfg.exNamespaces = true) ∨ (d = b!"user" ∧ exempt r.user cfg.exUsers = true) ∨
    (d = b!"runtimeClass" ∧ ∃ p, r.obj = .ok (.pod p) ∧ exemptRC p.runtimeClass cfg.exRuntimeClasses = true) := by
  have ho := validatePod_outcome pv cfg w r
  generalize validatePod pv cfg w r = out at ho h
  cases ho with
  | exemptNs hn => exact .inl ⟨(Option.some.inj h).symm, hn⟩
  | exemptUser hu => exact .inr (.inl ⟨(Option.some.inj h).symm, hu⟩)
  | evaluated _ _ p h5 =>
    have := evaluateObj_exempt _ _ _ _ _ _ _ h
    exact .inr (.inr ⟨this.1, p, h5, this.2⟩)
  | _ => cases h

/-- **Bypass (pods).** A matching namespace, or else a matching user, on a non-ignored subresource: allowed, never
    evaluated, annotated with the matching dimension, one exemption recorded. -/
theorem C06_bypass_pod_ns (pv) (cfg : Config) (w : World Ev) (r : Request)
    (hs : ignoredSubresources.contains r.sub = false) (h : exempt r.ns cfg.exNamespaces = true) :
    validatePod pv cfg w r = ({ allowed := true, annExempt := some b!"namespace" }, { metrics := [.exemption] }) := by
  simp only [validatePod, hs, h, Bool.false_eq_true, ↓reduceIte]

theorem C06_bypass_pod_user (pv) (cfg : Config) (w : World Ev) (r : Request)
    (hs : ignoredSubresources.contains r.sub = false) (hn : exempt r.ns cfg.exNamespaces = false)
    (h : exempt r.user cfg.exUsers = true) :
    validatePod pv cfg w r = ({ allowed := true, annExempt := some b!"user" }, { metrics := [.exemption] }) := by
  simp only [validatePod, hs, hn, h, Bool.false_eq_true, ↓reduceIte]

/-- **Bypass (controllers).** -/
theorem C06_bypass_ctl_ns (pv) (cfg : Config) (w : World Ev) (r : Request)
    (hs : r.sub = []) (h : exempt r.ns cfg.exNamespaces = true) :
    validateController pv cfg w r = ({ allowed := true, annExempt := some b!"namespace" }, { metrics := [.exemption] }) := by
  simp [validateController, hs, h]

theorem C06_bypass_ctl_user (pv) (cfg : Config) (w : World Ev) (r : Request)
    (hs : r.sub = []) (hn : exempt r.ns cfg.exNamespaces = false) (h : exempt r.user cfg.exUsers = true) :
    validateController pv cfg w r = ({ allowed := true, annExempt := some b!"user" }, { metrics := [.exemption] }) := by
  simp [validateController, hs, hn, h]

/-- **Only bypass (controllers).** -/
theorem C06_only_ctl (pv) (cfg : Config) (w : World Ev) (r : Request) (d : Str)
    (h : (validateController pv cfg w r).1.annExempt = some d) :
    (d = b!"namespace" ∧ exempt r.ns cfg.exNamespaces = true) ∨ (d = b!"user" ∧ exempt r.user cfg.exUsers = true) ∨
    (d = b!"runtimeClass" ∧ ∃ p, (r.obj = .ok (.pod p) ∨ r.obj = .ok (.controller (some p))) ∧
        exemptRC p.runtimeClass cfg.exRuntimeClasses = true) := by
  have ho := validateController_outcome pv cfg w r
  generalize validateController pv cfg w r = out at ho h
  cases ho with
  | exemptNs hn => exact .inl ⟨(Option.some.inj h).symm, hn⟩
  | exemptUser hu => exact .inr (.inl ⟨(Option.some.inj h).symm, hu⟩)
  | evaluated _ _ p h5 =>
    have := evaluateObj_exempt _ _ _ _ _ _ _ h
    exact .inr (.inr ⟨this.1, p, h5, this.2⟩)
  | _ => cases h

/-- **Runtime class.** From inside EvaluatePod: allowed, not evaluated, annotated `runtimeClass`. -/
theorem C06_bypass_rc (ev : Ev) (cfg : Config) (pol : Policy) (e : Bool) (p : PodObj) (enf : Bool)
    (h : exemptRC p.runtimeClass cfg.exRuntimeClasses = true) :
    (evaluateObj ev cfg pol e p enf).1.allowed = true ∧ (evaluateObj ev cfg pol e p enf).2.evalCalls = [] ∧
    (evaluateObj ev cfg pol e p enf).1.annExempt = some b!"runtimeClass" := by
  rw [evaluateObj_exempt_eq cfg ev pol e p enf h]; exact ⟨rfl, rfl, rfl⟩

/-- **Dry runs skip exactly the pods with an exempt runtime class**: the prioritised list is a permutation of the
    non-exempt pods of the listing. -/
theorem C06_dryrun_skips (exRC : List Str) (pods : List PodObj) :
    (prioritize exRC pods).Perm (pods.filter (fun p => !exemptRC p.runtimeClass exRC)) := prioritize_perm exRC pods

/-- non-vacuity: a request in the exempt namespace meets the premises of C06_bypass_pod_ns; a pod with the exempt runtime class
    is annotated `runtimeClass` (the premise of C06_only_pod) -/
example : ignoredSubresources.contains (Ex.podCreate Ex.privPod b!"kube-system").sub = false ∧
    exempt (Ex.podCreate Ex.privPod b!"kube-system").ns Ex.cfg.exNamespaces = true := by decide
example : (validatePod parseVersion Ex.cfg (Ex.world Ex.restrictedLabels) (Ex.podCreate Ex.kataPod)).1.annExempt = some b!"runtimeClass" := by
  decide +kernel

#print axioms C06_exact
#print axioms C06_exact_rc
#print axioms C06_only_pod
#print axioms C06_bypass_pod_ns
#print axioms C06_bypass_pod_user
#print axioms C06_bypass_ctl_ns
#print axioms C06_bypass_ctl_user
#print axioms C06_only_ctl
#print axioms C06_bypass_rc
#print axioms C06_dryrun_skips
end PSA.Props
