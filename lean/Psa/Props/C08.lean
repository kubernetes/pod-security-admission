import Psa.AdmitProps
import Psa.Deps
/-! # C08 — audit and warn never block and are reported exactly when violated
Stated on `evaluateObj` (EvaluatePod), for every evaluator, including policies that coincide and share the cached result. -/
namespace PSA.Props
open PSA

theorem evaluateObj_resp (ev : Ev) (cfg : Config) (pol : Policy) (e : Bool) (p : PodObj) (enf : Bool) :
    (evaluateObj ev cfg pol e p enf).1.allowed = (evaluatePod (fun lv (x : PodObj) => ev lv x) cfg pol e ⟨p, p.runtimeClass⟩ enf).resp.allowed ∧
    (evaluateObj ev cfg pol e p enf).1.annAudit = (evaluatePod (fun lv (x : PodObj) => ev lv x) cfg pol e ⟨p, p.runtimeClass⟩ enf).resp.annAudit ∧
    (evaluateObj ev cfg pol e p enf).1.warnings =
      (evaluatePod (fun lv (x : PodObj) => ev lv x) cfg pol e ⟨p, p.runtimeClass⟩ enf).resp.warnings.map (fun w => Warning.policy w.1 w.2) :=
  ⟨rfl, rfl, rfl⟩

/-- **Non-blocking.** Two policies with the same enforce part give the same verdict, whatever audit and warn are. -/
theorem C08_nonblocking (ev : Ev) (cfg : Config) (pol pol' : Policy) (e e' : Bool) (p : PodObj) (enf : Bool)
    (h : pol.enforce = pol'.enforce) :
    (evaluateObj ev cfg pol e p enf).1.allowed = (evaluateObj ev cfg pol' e' p enf).1.allowed := by
  cases hrc : exemptRC p.runtimeClass cfg.exRuntimeClasses
  · rw [evaluateObj_eq cfg ev pol e p enf hrc, evaluateObj_eq cfg ev pol' e' p enf hrc, h]
  · rw [evaluateObj_exempt_eq cfg ev pol e p enf hrc, evaluateObj_exempt_eq cfg ev pol' e' p enf hrc]

/-- **Audit iff.** The audit-violations annotation is present iff the object violates the audit policy — allowed or denied,
    enforce on or off — and it carries the audit policy and that policy's own findings. -/
theorem C08_audit (ev : Ev) (cfg : Config) (pol : Policy) (e : Bool) (p : PodObj) (enf : Bool)
    (hrc : exemptRC p.runtimeClass cfg.exRuntimeClasses = false) :
    (evaluateObj ev cfg pol e p enf).1.annAudit =
      (if (aggregate (ev pol.audit p)).allowed then none else some (pol.audit, aggregate (ev pol.audit p))) :=
  PSA.C08_audit (fun lv (x : PodObj) => ev lv x) cfg pol e ⟨p, p.runtimeClass⟩ enf hrc

/-- **Warn iff.** A warning is present iff the request is allowed and the object violates the warn policy; it carries the
    warn policy and that policy's own findings; a denied request carries none. -/
theorem C08_warn (ev : Ev) (cfg : Config) (pol : Policy) (e : Bool) (p : PodObj) (enf : Bool)
    (hrc : exemptRC p.runtimeClass cfg.exRuntimeClasses = false) :
    (evaluateObj ev cfg pol e p enf).1.warnings =
      (if (evaluateObj ev cfg pol e p enf).1.allowed ∧ ¬ (aggregate (ev pol.warn p)).allowed
       then [Warning.policy pol.warn (aggregate (ev pol.warn p))] else []) := by
  simp [evaluateObj_eq cfg ev pol e p enf hrc]

theorem C08_denied_no_warning (ev : Ev) (cfg : Config) (pol : Policy) (e : Bool) (p : PodObj) (enf : Bool)
    (hrc : exemptRC p.runtimeClass cfg.exRuntimeClasses = false) (hd : (evaluateObj ev cfg pol e p enf).1.allowed = false) :
    (evaluateObj ev cfg pol e p enf).1.warnings = [] := by
  rw [C08_warn ev cfg pol e p enf hrc]; simp [hd]

/-- **The result cache is transparent**: the evaluator runs once per *distinct* level:version among enforce (when
    enforcing), audit, and warn (unless the request was denied), in that order and on this pod — policies that coincide share
    one evaluation, and (C08_audit / C08_warn) what is reported is what evaluating each of them afresh would report. -/
theorem C08_cache_calls (ev : Ev) (cfg : Config) (pol : Policy) (e : Bool) (p : PodObj) (enf : Bool)
    (hrc : exemptRC p.runtimeClass cfg.exRuntimeClasses = false) :
    (evaluateObj ev cfg pol e p enf).2.evalCalls =
      (distinctInOrder ((if enf then [pol.enforce] else []) ++ [pol.audit] ++
          (if (evaluateObj ev cfg pol e p enf).1.allowed then [pol.warn] else []))).map (fun lv => (lv, p.name)) := by
  rw [evaluateObj_eq cfg ev pol e p enf hrc]

/-- non-vacuity: a pod that passes enforce but violates a different warn policy gets exactly one warning naming warn -/
example (ev : Ev) (cfg : Config) (p : PodObj) (e w : LevelVersion) (hne : e ≠ w)
    (hrc : exemptRC p.runtimeClass cfg.exRuntimeClasses = false)
    (he : (aggregate (ev e p)).allowed = true) (hw : (aggregate (ev w p)).allowed = false) :
    (evaluateObj ev cfg ⟨e, e, w⟩ false p true).1.warnings = [Warning.policy w (aggregate (ev w p))] := by
  rw [C08_warn ev cfg _ _ p _ hrc, evaluateObj_allowed cfg ev _ _ p hrc]
  simp [he, hw]

open PSA.Deps in
/-- **With the repository's own namespace getters the findings are those of the namespace's labels**: whenever the API server
    has the namespace with labels `L`, and the informer cache (if there is one) either holds the same object or has not seen it
    yet, the controller decides pod and controller requests in the world in which the lookup yields `L` — for every request,
    evaluator and configuration; in particular the audit annotation and the warnings are those of `L`'s policies, never those of
    a label-less namespace. -/
theorem C08_real_getters (pv) (cfg : Config) (w : World Ev) (r : Request) (L : Labels)
    (lister : Option (Lookup Labels)) (hl : lister = none ∨ lister = some .notFound ∨ lister = some (.found L)) :
    toWorld (getNamespace lister (.found L)).result = .ok L ∧
    validatePod pv cfg { w with getNs := toWorld (getNamespace lister (.found L)).result } r = validatePod pv cfg { w with getNs := .ok L } r ∧
    validateController pv cfg { w with getNs := toWorld (getNamespace lister (.found L)).result } r =
      validateController pv cfg { w with getNs := .ok L } r := by
  have h : toWorld (getNamespace lister (.found L)).result = .ok L := by
    rcases hl with rfl | rfl | rfl <;> rfl
  exact ⟨h, by rw [h], by rw [h]⟩

#print axioms C08_real_getters
#print axioms C08_nonblocking
#print axioms C08_audit
#print axioms C08_warn
#print axioms C08_denied_no_warning
#print axioms C08_cache_calls
end PSA.Props
