import Psa.AdmitProps
import Psa.Extract
import Psa.Props.C08
import Psa.ExpectedFacts
import Psa.Examples
/-! # C09 — pod controllers are never denied and their template is judged like the pod
All eight kinds are `Obj.controller template` after ExtractPodSpec (the resource table and type switch are tied by
fact F7 and by the correspondence, which wraps one pod in every kind). -/
namespace PSA.Props
open PSA

/-- never denied: every fault, every policy, every evaluator -/
theorem C09_allowed (pv) (cfg : Config) (w : World Ev) (r : Request) :
    (validateController pv cfg w r).1.allowed = true ∧ (validateController pv cfg w r).1.code = 0 :=
  validateController_allowed pv cfg w r

/-- with enforce = false: allowed, never a 403, no enforce-policy annotation, no enforce evaluation metric -/
theorem evaluateObj_unenforced (ev : Ev) (cfg : Config) (pol : Policy) (e : Bool) (p : PodObj) :
    (evaluateObj ev cfg pol e p false).1.annEnforce = none ∧ (evaluateObj ev cfg pol e p false).1.details = none :=
  (evaluateObj_advisory cfg ev pol e p).2.2

/-- **Same findings as the bare pod** under the two advisory policies: the warnings and the audit annotation of the
    controller request are those of the pod request in a namespace with the same audit / warn and a privileged enforce
    policy (for any evaluator that runs nothing at privileged). -/
theorem C09_same_findings (ev : Ev) (cfg : Config) (pol : Policy) (e : Bool) (p : PodObj) (v : Ver)
    (hpriv : ∀ v x, ev ⟨.privileged, v⟩ x = [])
    (hrc : exemptRC p.runtimeClass cfg.exRuntimeClasses = false) :
    (evaluateObj ev cfg pol e p false).1.warnings = (evaluateObj ev cfg { pol with enforce := ⟨.privileged, v⟩ } e p true).1.warnings ∧
    (evaluateObj ev cfg pol e p false).1.annAudit = (evaluateObj ev cfg { pol with enforce := ⟨.privileged, v⟩ } e p true).1.annAudit := by
  have hallow : (evaluateObj ev cfg { pol with enforce := ⟨.privileged, v⟩ } e p true).1.allowed = true := by
    rw [evaluateObj_allowed cfg ev _ _ p hrc]; simp [hpriv, aggregate]
  have hallow' : (evaluateObj ev cfg pol e p false).1.allowed = true := (evaluateObj_advisory cfg ev pol e p).1
  refine ⟨?_, ?_⟩
  · rw [C08_warn ev cfg pol e p false hrc, C08_warn ev cfg _ e p true hrc, hallow, hallow']
  · rw [C08_audit ev cfg pol e p false hrc, C08_audit ev cfg _ e p true hrc]

/-- **Quiet cases**: no template, any subresource, or warn and audit both privileged with clean labels ⇒ the plain allowed
    response (no warning, no annotation, no metric, no evaluation). -/
theorem C09_quiet_subresource (pv) (cfg : Config) (w : World Ev) (r : Request) (h : r.sub ≠ []) :
    validateController pv cfg w r = (allowPlain, {}) := by
  simp [validateController, h]

theorem C09_quiet_no_template (pv) (cfg : Config) (w : World Ev) (r : Request) (labels : Labels)
    (h0 : r.sub = []) (h1 : exempt r.ns cfg.exNamespaces = false) (h2 : exempt r.user cfg.exUsers = false)
    (h3 : w.getNs = .ok labels) (h : r.obj = .ok (.controller none)) :
    validateController pv cfg w r = (allowPlain, {}) := by
  simp only [validateController, h0, h1, h2, h3, h, ne_eq, not_true_eq_false, Bool.false_eq_true, ↓reduceIte]
  split <;> rfl

theorem C09_quiet_privileged (pv) (cfg : Config) (w : World Ev) (r : Request) (labels : Labels)
    (h0 : r.sub = []) (h1 : exempt r.ns cfg.exNamespaces = false) (h2 : exempt r.user cfg.exUsers = false)
    (h3 : w.getNs = .ok labels)
    (h : (policyToEvaluate pv labels cfg.defaults).2 = [] ∧ (policyToEvaluate pv labels cfg.defaults).1.warn.level = .privileged ∧
         (policyToEvaluate pv labels cfg.defaults).1.audit.level = .privileged) :
    validateController pv cfg w r = (allowPlain, {}) := by
  simp only [validateController, h0, h1, h2, h3, ne_eq, not_true_eq_false, Bool.false_eq_true, ↓reduceIte, h.1, h.2.1, h.2.2,
    List.isEmpty_nil, beq_self_eq_true, Bool.and_self]

open PSA.Extract in
/-- **Every kind is judged by its template**: whatever the workload kind, an object that states template `t` reaches the admission
    controller as that template, so `validateController` decides it as it decides any other kind holding `t` (and
    `C09_same_findings` compares that with the bare pod). -/
theorem C09_any_kind (pv) (cfg : Config) (w : World Ev) (r : Request) (k k' : WKind) (t : PodObj) :
    toObj ⟨k, some t⟩ = .controller (some t) ∧
    validateController pv cfg w { r with obj := .ok (toObj ⟨k, some t⟩) } = validateController pv cfg w { r with obj := .ok (toObj ⟨k', some t⟩) } := by
  have h : ∀ k, toObj ⟨k, some t⟩ = .controller (some t) := fun k => by simp [toObj, extract_some ⟨k, some t⟩ t rfl]
  exact ⟨h k, by rw [h k, h k']⟩

open PSA.Extract in
/-- "objects without a template": only a ReplicationController can be one (its template is a pointer); every other kind always
    has a template, if only the empty one -/
theorem C09_no_template_only_rc (w : Workload) :
    toObj w = .controller none ↔ w.kind = .replicationController ∧ w.template = none := by
  simp only [toObj, Obj.controller.injEq]; exact extract_none_iff w

/-- the part of a resource name after the API group prefix the fact extractor writes ("appsv1/deployments") -/
def afterSlash (s : Str) : Str := match s.dropWhile (fun c => c != 47) with | [] => s | _ :: rest => rest

open PSA.Extract in
/-- tie obligation (F7): the model's eight kinds are exactly the controller resources of the running code (and `pods`) -/
theorem C09_kinds_tied :
    (Generated.podSpecResources.all (fun r => afterSlash r == b!"pods" || (WKind.ofResource (afterSlash r)).isSome) &&
     allKinds.all (fun k => Generated.podSpecResources.any (fun r => afterSlash r == k.resource))) = true := by decide +kernel

/-- tie obligation (F7): the pod-bearing resources are pods and the eight controller kinds -/
theorem C09_resources :
    (Generated.podSpecResources.all (Expected.podSpecResources.contains ·) &&
     Expected.podSpecResources.all (Generated.podSpecResources.contains ·)) = true := by decide +kernel

/-- non-vacuity: a controller whose template is a privileged pod, in a namespace with audit=baseline and warn=restricted: allowed,
    with a warning and an audit annotation (the premises of C09_same_findings hold for it: `shipped` runs nothing at privileged) -/
example : exemptRC Ex.privPod.runtimeClass Ex.cfg.exRuntimeClasses = false := by decide
example : (validateController parseVersion Ex.cfg (Ex.world Ex.restrictedLabels) (Ex.ctlCreate Ex.privPod)).1.allowed = true ∧
    (validateController parseVersion Ex.cfg (Ex.world Ex.restrictedLabels) (Ex.ctlCreate Ex.privPod)).1.warnings ≠ [] ∧
    (validateController parseVersion Ex.cfg (Ex.world Ex.restrictedLabels) (Ex.ctlCreate Ex.privPod)).1.annAudit.isSome = true := by decide +kernel

#print axioms C09_allowed
#print axioms C09_same_findings
#print axioms C09_quiet_subresource
#print axioms C09_quiet_no_template
#print axioms C09_quiet_privileged
#print axioms C09_resources
#print axioms C09_any_kind
#print axioms C09_no_template_only_rc
#print axioms C09_kinds_tied
end PSA.Props
