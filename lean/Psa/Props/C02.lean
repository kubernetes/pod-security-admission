import Psa.C02Bridge
import Psa.ExpectedFacts
import Psa.Examples
/-! # C02 — the built-in checks implement the Pod Security Standards at every version
Property theorems only; helper lemmas live in `Psa/Standard.lean`, `Psa/C02.lean`, `Psa/RegistryProofs.lean`. -/
namespace PSA.Props
open PSA

/-- tie obligation: the allow-lists regenerated from /repo are the published ones -/
theorem C02_tables_published : Generated.tables = Std.publishedTables := tables_published

/-- tie obligation: every registered revision has a model function; the registration metadata is well formed
    and its newest revision is v1.32 -/
theorem C02_meta_modelled : ∀ c ∈ Generated.metaChecks, ∀ r ∈ c.2.2, (revOf c.1 r.2.1).isSome = true := by decide +kernel
theorem C02_meta_wellformed : WellFormed shipped := shipped_wf

/-- Baseline, every version (latest and every v1.N, N unbounded), every pod: the evaluator's aggregate verdict
    is the Standard's. -/
theorem C02_baseline (v : Ver) (p : Pod) (hv : v.requestable) :
    (aggregate (evalPodModel Generated.tables false ⟨.baseline, v⟩ p)).allowed = true ↔
      Std.baseline Std.publishedTables (clampV 32 v) p := by
  rw [evalPodModel_allowed, C02_tables_published]
  exact PSA.C02_baseline _ v p hv

/-- Restricted, every version, every pod the API server accepts. -/
theorem C02_restricted (v : Ver) (p : Pod) (hv : v.requestable) (hp : ApiValid p) :
    (aggregate (evalPodModel Generated.tables false ⟨.restricted, v⟩ p)).allowed = true ↔
      Std.restricted Std.publishedTables (clampV 32 v) p :=
  C02_restricted_iff v p hv hp

/-- tie obligation (F4): every registered revision reads only the API fields the model pod carries for that control, so
    "fields the standard does not mention never change a verdict" transfers from the model to the code -/
theorem C02_reads_modelled : Expected.readsWithin Generated.readSets Expected.readSets = true := by decide +kernel

/-- tie obligation: the annotation keys and the volume-type names of the code are the model's -/
theorem C02_keys : Generated.seccompPodAnnKey = seccompPodAnnKey ∧ Generated.seccompContainerAnnPrefix = seccompContainerAnnPrefix ∧
    Generated.appArmorAnnKeyPrefix = appArmorAnnKeyPrefix := by decide +kernel

/-- the model evaluator is the Standard's own evaluator (`stdEval`, used as the oracle by the correspondence run) -/
theorem C02_model_is_standard (l : Level) (v : Ver) (p : Pod) (hv : v.requestable) :
    evalPodModel Generated.tables false ⟨l, v⟩ p = stdEval l v p := by
  rw [stdEval_eq, evalPodModel_stdRevs _ _ l v p hv, tables_published]

/-- non-vacuity: the hypotheses of C02_restricted are met by a concrete pod and version, on both sides of the verdict -/
example : Ver.requestable (.mm 1 25) ∧ Ver.requestable .latest := ⟨Or.inr ⟨25, rfl⟩, Or.inl rfl⟩
example : ApiValid Ex.compliantPod ∧ ApiValid Ex.privPod.pod := by decide
example : (aggregate (evalPodModel Generated.tables false ⟨.restricted, .mm 1 25⟩ Ex.compliantPod)).allowed = true ∧
    (aggregate (evalPodModel Generated.tables false ⟨.restricted, .mm 1 25⟩ Ex.plainPod.pod)).allowed = false ∧
    (aggregate (evalPodModel Generated.tables false ⟨.baseline, .mm 1 25⟩ Ex.plainPod.pod)).allowed = true ∧
    (aggregate (evalPodModel Generated.tables false ⟨.baseline, .mm 1 25⟩ Ex.privPod.pod)).allowed = false := by
  -- the registry resolved by `shipped_evaluate`, the checks run by the kernel
  simp only [evalPodModel_stdRevs _ _ _ _ _ (.inr ⟨25, rfl⟩)]
  decide +kernel

#print axioms C02_model_is_standard
#print axioms C02_tables_published
#print axioms C02_meta_modelled
#print axioms C02_meta_wellformed
#print axioms C02_baseline
#print axioms C02_restricted
#print axioms C02_reads_modelled
#print axioms C02_keys
end PSA.Props
