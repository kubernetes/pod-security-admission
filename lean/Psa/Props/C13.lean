import Psa.NamesProofs
import Psa.NamesClean
import Psa.RenderProofs
import Psa.EvalProofs
import Psa.Generated.Tables
/-! # C13 — violation messages list every violated control once and name the offenders -/
namespace PSA.Props
open PSA

/-- **Fixed order**: which revisions run, and in which order, depends on (level, version) only — never on the pod. -/
theorem C13_fixed_order (T : Tables) (relax : Bool) (l : Level) (v : Ver) (p : Pod) (hv : v.requestable) :
    evalPodModel T relax ⟨l, v⟩ p = (spec shipped l (clampV 32 v)).map (fun r => runRev T relax r p) := by
  unfold evalPodModel
  rw [C04_resolves shipped shipped_wf l v hv, shipped_max]
  rfl

/-- **Specific reason**: a built-in control that denies never has an empty reason nor the placeholder. -/
theorem C13_reason_specific (T : Tables) (relax : Bool) (r : RevId) (p : Pod) (h : (runRev T relax r p).allowed = false) :
    (runRev T relax r p).reason ≠ [] ∧ (runRev T relax r p).reason ≠ unknownReason := by
  rw [runRev_reason T relax r p h]; exact reason_specific _ _

/-- **Exactly once**: in any evaluation (every level, version, pod) no two violated controls carry the same reason. -/
theorem C13_once (T : Tables) (relax : Bool) (l : Level) (v : Ver) (p : Pod) (hv : v.requestable) :
    (((evalPodModel T relax ⟨l, v⟩ p).filter (fun r => !r.allowed)).map (·.reason)).Nodup := by
  rw [C13_fixed_order T relax l v p hv]
  have hk := shipped_keys_nodup (clampV 32 v) (clampV_le 32 v) l
  generalize spec shipped l (clampV 32 v) = L at hk
  rw [List.filter_map, List.map_map]
  rw [List.nodup_iff_pairwise_ne, List.pairwise_map] at hk ⊢
  apply (hk.filter _).imp_of_mem
  intro a b ha hb hab heq
  simp only [List.mem_filter, Function.comp_apply, Bool.not_eq_eq_eq_not, Bool.not_true] at ha hb
  simp only [Function.comp_apply] at heq
  rw [runRev_reason T relax a p ha.2, runRev_reason T relax b p hb.2] at heq
  exact hab (reason_key _ _ _ _ heq)

/-- the aggregate's reasons are exactly those failing reasons, in order -/
theorem C13_aggregate_reasons (rs : List CheckResult) (h : ∀ r ∈ rs, r.allowed = false → r.reason ≠ []) :
    (aggregate rs).reasons = (rs.filter (fun r => !r.allowed)).map (·.reason) := by
  simp only [aggregate]
  apply List.map_congr_left
  intro r hr
  have := h r (List.mem_filter.mp hr).1 (by simpa using (List.mem_filter.mp hr).2)
  simp [this]

/-- **Offenders** of a container/volume control built with `mk`: the listed names are exactly the names of the visited
    containers (volumes) for which the control's predicate fails — never a compliant one. -/
theorem C13_mk_fields (pod : Bool) (cs cs2 vols values flags extra : List Str) :
    (mk pod cs cs2 vols values flags extra).containers = cs ∧ (mk pod cs cs2 vols values flags extra).containers2 = cs2 ∧
    (mk pod cs cs2 vols values flags extra).volumes = vols := by
  unfold mk
  split
  · exact ⟨rfl, rfl, rfl⟩
  · simp_all [CheckOut.ok]

theorem C13_offenders_are_violators (cs : List Container) (bad : Container → Bool) (n : Str) :
    n ∈ offenders cs bad ↔ ∃ c ∈ cs, bad c = true ∧ c.name = n := by
  simp [offenders, and_assoc]

/-- instances: the offenders of the container controls … -/
theorem C13_privileged_offenders (p : Pod) : (privileged_1_0 p).containers = offenders p.visit cPrivileged :=
  (C13_mk_fields _ _ _ _ _ _ _).1
theorem C13_hostPorts_offenders (p : Pod) : (hostPorts_1_0 p).containers = offenders p.visit cHostPorts :=
  (C13_mk_fields _ _ _ _ _ _ _).1
theorem C13_capsBaseline_offenders (T : Tables) (p : Pod) :
    (capabilitiesBaseline_1_0 T p).containers = offenders p.visit (cCapsBaseline T) := (C13_mk_fields _ _ _ _ _ _ _).1
theorem C13_allowPrivEsc_offenders (p : Pod) : (allowPrivilegeEscalation_1_8 p).containers = offenders p.visit cAllowPrivEsc :=
  (C13_mk_fields _ _ _ _ _ _ _).1
theorem C13_capsRestricted_offenders (T : Tables) (p : Pod) :
    (capabilitiesRestricted_1_22 T p).containers = offenders p.visit (cMissingDropAll T) ∧
    (capabilitiesRestricted_1_22 T p).containers2 = offenders p.visit (cAddsForbidden T) :=
  ⟨(C13_mk_fields _ _ _ _ _ _ _).1, (C13_mk_fields _ _ _ _ _ _ _).2.1⟩
/-- … and of the volume controls -/
theorem C13_hostPath_offenders (p : Pod) : (hostPathVolumes_1_0 p).volumes = (p.volumes.filter vHostPath).map (·.name) :=
  (C13_mk_fields _ _ _ _ _ _ _).2.2
theorem C13_restrictedVolumes_offenders (T : Tables) (p : Pod) :
    (restrictedVolumes_1_0 T p).volumes = (p.volumes.filter (vRestricted T)).map (·.name) := (C13_mk_fields _ _ _ _ _ _ _).2.2

/-- the detail text names exactly those offenders (shape of the rendered detail, two representative controls) -/
theorem C13_privileged_detail (T : Tables) (relax : Bool) (p : Pod) (h : (runRev T relax .privileged0 p).allowed = false) :
    (runRev T relax .privileged0 p).detail =
      ctrs (offenders p.visit cPrivileged) ++ b!" must not set securityContext.privileged=true" := by
  rw [runRev_detail _ _ _ _ h, ← C13_privileged_offenders]
  rfl

theorem C13_restrictedVolumes_detail_names (T : Tables) (relax : Bool) (p : Pod)
    (h : (runRev T relax .restrictedVolumes0 p).allowed = false) :
    ∃ tail, (runRev T relax .restrictedVolumes0 p).detail =
      pluralize b!"volume" b!"volumes" ((p.volumes.filter (vRestricted T)).map (·.name)).length ++ b!" " ++
      joinQuote ((p.volumes.filter (vRestricted T)).map (·.name)) ++ tail := by
  rw [runRev_detail _ _ _ _ h, ← C13_restrictedVolumes_offenders]
  exact ⟨_, by simp only [RevId.kind, Kind.detail, List.append_assoc]; rfl⟩

/-- **Every detail shape names its offenders by name**: whenever a revision of a container- or volume-related control
    forbids a pod, the detail text it returns contains, between quotes, the name of every container / volume the structured
    result lists (`Kind.named`: the offenders, by C13_mk_fields and the per-control offender lemmas above) — for all eighteen
    message shapes, every pod, every revision, relaxation on or off. -/
theorem C13_detail_names_offenders (T : Tables) (relax : Bool) (r : RevId) (p : Pod)
    (h : (runRev T relax r p).allowed = false) (n : Str) (hn : n ∈ r.kind.named (run T relax r p)) :
    quoted n <:+: (runRev T relax r p).detail := by
  rw [runRev_detail _ _ _ _ h]
  exact detail_names r.kind _ n hn

/-- **Nothing else is named**: when the names and values a revision reports are free of the double-quote byte (container and
    volume names of API-valid pods are DNS labels; the values are capability names, profile types, volume types, …), every
    string that stands between quotes in the detail text is the name of a listed offender (`Kind.named`) or one of the values
    the control quotes (`Kind.quotedValues`: the forbidden values found, and the fixed words "ALL", "RuntimeDefault",
    "Localhost") — for all eighteen message shapes, every pod, every revision, relaxation on or off. With
    `C13_detail_names_offenders` the quoted object names of a detail are exactly the offenders. -/
theorem C13_detail_names_only (T : Tables) (relax : Bool) (r : RevId) (p : Pod)
    (h : (runRev T relax r p).allowed = false) (hc : Clean (run T relax r p)) (s : Str)
    (hs : s ∈ quotedSegs (runRev T relax r p).detail) :
    s ∈ r.kind.named (run T relax r p) ∨ s ∈ r.kind.quotedValues (run T relax r p) := by
  obtain ⟨l, hl, hsub⟩ := detail_segs r.kind _ hc
  rw [runRev_detail _ _ _ _ h, hl.eq] at hs
  exact hsub s hs

/-- **The name half of `Clean` comes from the pod.** Container and volume names that contain no quote byte — DNS labels, which
    is what API validation admits (`dns_noQ`) — give offender lists without one, for all twenty-five revisions, every pod,
    relaxation on or off. What remains a hypothesis of `C13_detail_names_only` is only that the *values* a control quotes
    (capability names, profile types, sysctl names, … taken verbatim from the pod) contain no quote byte. -/
theorem C13_names_clean (T : Tables) (relax : Bool) (r : RevId) (p : Pod) (h : PodNamesClean p) : NamesOK (run T relax r p) := by
  have off (bad : Container → Bool) : ∀ x ∈ offenders p.visit bad, noQ x := by
    intro x hx
    obtain ⟨c, hc, rfl⟩ := List.mem_map.mp hx
    exact h.1 c (List.mem_filter.mp hc).1
  have vol (f : Volume → Bool) : ∀ x ∈ (p.volumes.filter f).map (·.name), noQ x := by
    intro x hx
    obtain ⟨v, hv, rfl⟩ := List.mem_map.mp hx
    exact h.2 v (List.mem_filter.mp hv).1
  -- the two controls with a second tier of offenders (containers that leave the field to a pod that does not set it)
  have tiers (c1 c2 : Prop) [Decidable c1] [Decidable c2] (pod : Bool) (bad bad2 : Container → Bool) (vals : List Str) :
      NamesOK (if c1 then { allowed := false, pod := pod, containers := offenders p.visit bad, values := vals }
        else if c2 then { allowed := false, containers2 := offenders p.visit bad2 } else .ok) :=
    namesOK_ite _ ⟨off _, nil_clean, nil_clean⟩ (namesOK_ite _ ⟨nil_clean, off _, nil_clean⟩ namesOK_ok)
  cases r <;> simp only [run]
  case privileged0 | hostPorts0 | capsBaseline0 | appArmor0 | seLinux0 | seLinux31 | seccompB0 | seccompB19 | hostProcess0
      | allowPrivEsc8 =>
    exact namesOK_mk _ _ _ _ _ _ _ (off _) nil_clean nil_clean
  case hostNamespaces0 | sysctls0 | sysctls27 | sysctls29 | sysctls32 =>
    exact namesOK_mk _ _ _ _ _ _ _ nil_clean nil_clean nil_clean
  case hostPath0 | restrictedVolumes0 => exact namesOK_mk _ _ _ _ _ _ _ nil_clean nil_clean (vol _)
  case capsRestricted22 => exact namesOK_mk _ _ _ _ _ _ _ (off _) (off _) nil_clean
  -- behind a guard (Windows pod, user-namespace relaxation) that lets everything pass
  case allowPrivEsc25 | procMount0 | runAsUser23 =>
    exact namesOK_ite _ namesOK_ok (namesOK_mk _ _ _ _ _ _ _ (off _) nil_clean nil_clean)
  case capsRestricted25 => exact namesOK_ite _ namesOK_ok (namesOK_mk _ _ _ _ _ _ _ (off _) (off _) nil_clean)
  case seccompR19 => exact tiers ..
  case runAsNonRoot0 | seccompR25 => exact namesOK_ite _ namesOK_ok (tiers ..)

theorem C13_detail_names_only_of_pod (T : Tables) (relax : Bool) (r : RevId) (p : Pod)
    (h : (runRev T relax r p).allowed = false) (hn : PodNamesClean p)
    (hv : (∀ x ∈ (run T relax r p).values, noQ x) ∧ (∀ x ∈ (run T relax r p).flags, noQ x) ∧ (∀ x ∈ (run T relax r p).extra, noQ x))
    (s : Str) (hs : s ∈ quotedSegs (runRev T relax r p).detail) :
    s ∈ r.kind.named (run T relax r p) ∨ s ∈ r.kind.quotedValues (run T relax r p) :=
  have ok := C13_names_clean T relax r p hn
  C13_detail_names_only T relax r p h ⟨ok.cs, ok.cs2, ok.vols, hv.1, hv.2.1, hv.2.2⟩ s hs

/-- non-vacuity: DNS-label names are clean -/
example : PodNamesClean { containers := [{ name := b!"app-1" }, { name := b!"side.car" }], volumes := [{ name := b!"data" }] } := by
  unfold PodNamesClean; decide

/-- non-vacuity: the quoted segments of a concrete detail, computed; the compliant container "ok" is not among them -/
example : quotedSegs (runRev Generated.tables false .capsBaseline0
      { containers := [{ name := b!"a", sc := some { caps := some { add := [b!"NET_ADMIN", b!"CHOWN"] } } }, { name := b!"ok" },
                       { name := b!"b", sc := some { caps := some { add := [b!"SYS_TIME"] } } }] }).detail =
    [b!"a", b!"b", b!"NET_ADMIN", b!"SYS_TIME"] := by decide +kernel

/-- non-vacuity: a pod with two privileged containers; both names are in the text -/
example : quoted b!"a" <:+: (runRev Generated.tables false .privileged0
      { containers := [{ name := b!"a", sc := some { privileged := some true } }, { name := b!"ok" },
                       { name := b!"b", sc := some { privileged := some true } }] }).detail ∧
    (runRev Generated.tables false .privileged0
      { containers := [{ name := b!"a", sc := some { privileged := some true } }, { name := b!"ok" },
                       { name := b!"b", sc := some { privileged := some true } }] }).detail =
      b!"containers \"a\", \"b\" must not set securityContext.privileged=true" := by
  refine ⟨C13_detail_names_offenders _ _ _ _ (by decide +kernel) _ (by decide +kernel), by decide +kernel⟩

/-- tie obligation: the volume-type names (nested switch of restrictedVolumes_1_0, in source order) are the model's -/
theorem C13_volume_names : Generated.volBadKinds = badVolKinds ∧ Generated.volBadDefault = b!"unknown" := by decide +kernel

#print axioms C13_fixed_order
#print axioms C13_reason_specific
#print axioms C13_once
#print axioms C13_aggregate_reasons
#print axioms C13_mk_fields
#print axioms C13_offenders_are_violators
#print axioms C13_capsRestricted_offenders
#print axioms C13_restrictedVolumes_offenders
#print axioms C13_privileged_detail
#print axioms C13_restrictedVolumes_detail_names
#print axioms C13_detail_names_offenders
#print axioms C13_detail_names_only
#print axioms C13_names_clean
#print axioms C13_detail_names_only_of_pod
#print axioms C13_volume_names
end PSA.Props
