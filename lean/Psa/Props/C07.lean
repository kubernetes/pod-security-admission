import Psa.AdmitProps
import Psa.Deps
import Psa.Examples
import Psa.NamespaceProofs
/-! # C07 — dependency failures fail closed for pods and open for advisory paths
Faults are inputs of the model (`w.getNs`, `r.obj`, `r.old`, `w.listPods`, `w.expireAfter`); every theorem quantifies over
every placement of them. -/
namespace PSA.Props
open PSA

/-- **Pods fail closed.** Whatever fails, a pod request is allowed only for one of these reasons — never because of a fault. -/
theorem C07_pod_closed (pv) (cfg : Config) (w : World Ev) (r : Request) (h : (validatePod pv cfg w r).1.allowed = true) :
    ignoredSubresources.contains r.sub = true ∨ exempt r.ns cfg.exNamespaces = true ∨ exempt r.user cfg.exUsers = true ∨
    ∃ labels, w.getNs = .ok labels ∧
      let pe := policyToEvaluate pv labels cfg.defaults
      ((pe.2.isEmpty = true ∧ pe.1.fullyPrivileged = true) ∨
       ∃ p, r.obj = .ok (.pod p) ∧
         ((r.op = .update ∧ ∃ q, r.old = .ok (.pod q) ∧ isSignificant p.pod q.pod = false) ∨
          exemptRC p.runtimeClass cfg.exRuntimeClasses = true ∨
          enforcedOK w.ev pe.1 p)) := PSA.C07_pod_closed pv cfg w r h

/-- each pod fault site, spelled out: the request is denied with an error status and flagged -/
theorem C07_pod_ns_lookup (pv) (cfg : Config) (w : World Ev) (r : Request)
    (h0 : ignoredSubresources.contains r.sub = false) (h1 : exempt r.ns cfg.exNamespaces = false)
    (h2 : exempt r.user cfg.exUsers = false) (e : Unit) (h : w.getNs = .error e) :
    (validatePod pv cfg w r).1.allowed = false ∧ (validatePod pv cfg w r).1.code = 500 ∧
    (validatePod pv cfg w r).1.annError = true ∧ (validatePod pv cfg w r).2.evalCalls = [] := by
  simp only [validatePod, h0, h1, h2, h, errResp, Bool.false_eq_true, ↓reduceIte, and_self]

theorem C07_pod_bad_object (pv) (cfg : Config) (w : World Ev) (r : Request) (labels : Labels)
    (h0 : ignoredSubresources.contains r.sub = false) (h1 : exempt r.ns cfg.exNamespaces = false)
    (h2 : exempt r.user cfg.exUsers = false) (h3 : w.getNs = .ok labels)
    (h4 : ((policyToEvaluate pv labels cfg.defaults).2.isEmpty && (policyToEvaluate pv labels cfg.defaults).1.fullyPrivileged) = false)
    (h : (∀ p, r.obj ≠ .ok (.pod p)) ∨ (r.op = .update ∧ ∀ q, r.old ≠ .ok (.pod q))) :
    (validatePod pv cfg w r).1.allowed = false ∧ (validatePod pv cfg w r).1.code = 400 ∧
    (validatePod pv cfg w r).1.annError = true := by
  simp only [validatePod, h0, h1, h2, h3, h4, Bool.false_eq_true, ↓reduceIte]
  split
  · next p hp =>
    rcases h with h | ⟨hu, h⟩
    · exact absurd hp (h p)
    · rw [if_pos hu]
      split
      · next q hq => exact absurd hq (h q)
      · exact ⟨rfl, rfl, rfl⟩
  · exact ⟨rfl, rfl, rfl⟩

/-- **Controllers fail open**: always allowed (C09_allowed), and every fault site yields the `error` annotation. -/
theorem C07_controller_open (pv) (cfg : Config) (w : World Ev) (r : Request) :
    (validateController pv cfg w r).1.allowed = true := PSA.C09_allowed pv cfg w r

theorem C07_controller_ns_lookup (pv) (cfg : Config) (w : World Ev) (r : Request)
    (h0 : r.sub = []) (h1 : exempt r.ns cfg.exNamespaces = false) (h2 : exempt r.user cfg.exUsers = false)
    (e : Unit) (h : w.getNs = .error e) :
    (validateController pv cfg w r).1.annError = true := by
  simp [validateController, h0, h1, h2, h, allowWithError]

theorem C07_controller_bad_object (pv) (cfg : Config) (w : World Ev) (r : Request) (labels : Labels)
    (h0 : r.sub = []) (h1 : exempt r.ns cfg.exNamespaces = false) (h2 : exempt r.user cfg.exUsers = false)
    (h3 : w.getNs = .ok labels)
    (h4 : ((policyToEvaluate pv labels cfg.defaults).2.isEmpty && (policyToEvaluate pv labels cfg.defaults).1.warn.level == .privileged &&
            (policyToEvaluate pv labels cfg.defaults).1.audit.level == .privileged) = false)
    (h : (∀ p, r.obj ≠ .ok (.pod p)) ∧ (∀ t, r.obj ≠ .ok (.controller t))) :
    (validateController pv cfg w r).1.annError = true := by
  simp only [validateController, h0, h1, h2, h3, h4, ne_eq, not_true_eq_false, Bool.false_eq_true, ↓reduceIte]
  split
  · rfl
  · next p hp => exact absurd hp (h.1 p)
  · next t hp => exact absurd hp (h.2 _)
  · next hp => exact absurd hp (h.2 _)
  · rfl

/-- **Namespaces.** An undecodable body (or one of the wrong type) is denied … -/
theorem C07_ns_bad_body (pv) (cfg : Config) (lim : Limits) (w : World Ev) (r : Request)
    (h0 : r.sub = []) (h : ∀ n l, r.obj ≠ .ok (.ns n l)) :
    (validateNamespace pv cfg lim w r).1.allowed = false ∧ (validateNamespace pv cfg lim w r).1.code = 400 := by
  simp only [validateNamespace, h0, ne_eq, not_true_eq_false, ↓reduceIte]
  exact ⟨rfl, rfl⟩

/-- … but once the labels are valid, nothing about the pods — listing failure, population, evaluator verdicts, expiry at
    any index, remaining time — can make the response a denial. -/
theorem C07_ns_never_blocked_by_pods (pv) (cfg : Config) (lim : Limits) (w w' : World Ev) (r : Request) :
    (validateNamespace pv cfg lim w r).1.allowed = (validateNamespace pv cfg lim w' r).1.allowed :=
  (validateNamespace_verdict pv cfg lim w w' r).1

/-- **Malformed labels never skip evaluation**: with label errors the privileged short cut is not taken, the pod is
    evaluated under the fail-safe policy, and the response is flagged. -/
theorem C07_labels_evaluated (pv) (cfg : Config) (w : World Ev) (r : Request) (labels : Labels) (p : PodObj)
    (h0 : ignoredSubresources.contains r.sub = false) (h1 : exempt r.ns cfg.exNamespaces = false)
    (h2 : exempt r.user cfg.exUsers = false) (h3 : w.getNs = .ok labels)
    (herr : (policyToEvaluate pv labels cfg.defaults).2 ≠ [])
    (h5 : r.obj = .ok (.pod p)) (hop : r.op = .create) (hrc : exemptRC p.runtimeClass cfg.exRuntimeClasses = false) :
    (validatePod pv cfg w r).1.annError = true ∧
    (validatePod pv cfg w r).1.allowed = (aggregate (w.ev (policyToEvaluate pv labels cfg.defaults).1.enforce p)).allowed ∧
    (policyToEvaluate pv labels cfg.defaults).1.enforce ∈ (validatePod pv cfg w r).2.evalCalls.map (·.1) := by
  have hne : (policyToEvaluate pv labels cfg.defaults).2.isEmpty = false := List.isEmpty_eq_false_iff.mpr herr
  simp only [validatePod, h0, h1, h2, h3, hne, h5, hop, Bool.false_and, Bool.false_eq_true, ↓reduceIte, reduceCtorEq]
  exact ⟨by rw [evaluateObj_eq cfg w.ev _ _ p true hrc]; rfl, evaluateObj_allowed cfg w.ev _ _ p hrc,
    evaluateObj_calls_enforce cfg w.ev _ _ p hrc⟩

/-- **A failed listing is reported, not hidden, and blocks nothing.** Whenever a namespace update calls the pod lister and the
    listing fails, the answer is: allowed, exactly the one warning "failed to list pods …", no pod evaluated — for every
    configuration, evaluator, remaining deadline and label pair that leads to a dry run. -/
theorem C07_ns_list_failure (pv) (cfg : Config) (lim : Limits) (w : World Ev) (r : Request) (e : Unit)
    (hcalls : (validateNamespace pv cfg lim w r).2.listCalls = 1) (hlist : w.listPods = .error e) :
    (validateNamespace pv cfg lim w r).1.allowed = true ∧ (validateNamespace pv cfg lim w r).1.warnings = [.listFailed] ∧
    (validateNamespace pv cfg lim w r).2.evalCalls = [] := by
  rcases validateNamespace_decision pv cfg r with ⟨_, h⟩ | ⟨_, _, h⟩ <;> rw [h] at hcalls ⊢
  · cases hcalls
  · simp [nsDryRun, hlist]

/-- non-vacuity: an update to enforce=restricted whose listing fails does call the lister once -/
example : (validateNamespace parseVersion Ex.cfg Ex.lim { Ex.world [] with listPods := .error () } (Ex.nsUpdate Ex.restrictedLabels [])).2.listCalls = 1 := by
  decide +kernel

/-! ## The dependency adapters (admission/namespace.go, admission/pods.go) -/
open PSA.Deps in
/-- **The namespace getter.** It answers "found" exactly when the cache has the namespace, or the cache is absent or says
    NotFound and the API server has it; a cache failure of any other kind is *not* retried at the API server. -/
theorem C07_getter_found_iff {α} (lister : Option (Lookup α)) (client : Lookup α) (a : α) :
    (getNamespace lister client).result = .found a ↔
      lister = some (.found a) ∨ ((lister = none ∨ lister = some .notFound) ∧ client = .found a) := by
  cases lister with
  | none => simp [getNamespace]
  | some l => cases l <;> simp [getNamespace]

open PSA.Deps in
/-- the API server is asked exactly when there is no cache or the cache says NotFound -/
theorem C07_getter_asks_client_iff {α} (lister : Option (Lookup α)) (client : Lookup α) :
    (getNamespace lister client).clientAsked = true ↔ (lister = none ∨ lister = some .notFound) := by
  cases lister with
  | none => simp [getNamespace]
  | some l => cases l <;> simp [getNamespace]

open PSA.Deps in
theorem toWorld_of_not_found (res : Lookup Labels) (h : ∀ l, res ≠ .found l) : toWorld res = .error () := by
  cases res with
  | found l => exact absurd rfl (h l)
  | _ => rfl

open PSA.Deps in
/-- **Composed with the pod path**: whatever the cache and the API server answer, if the getter does not find the namespace,
    a pod request that is neither ignored nor exempt is denied (500, flagged, nothing evaluated) — for every evaluator,
    configuration and request. -/
theorem C07_pod_getter_closed (pv) (cfg : Config) (w : World Ev) (r : Request)
    (lister : Option (Lookup Labels)) (client : Lookup Labels)
    (hw : w.getNs = toWorld (getNamespace lister client).result)
    (h0 : ignoredSubresources.contains r.sub = false) (h1 : exempt r.ns cfg.exNamespaces = false)
    (h2 : exempt r.user cfg.exUsers = false)
    (hnf : ∀ l, (getNamespace lister client).result ≠ .found l) :
    (validatePod pv cfg w r).1.allowed = false ∧ (validatePod pv cfg w r).1.code = 500 ∧
    (validatePod pv cfg w r).2.evalCalls = [] := by
  have he : w.getNs = .error () := hw.trans (toWorld_of_not_found _ hnf)
  have := C07_pod_ns_lookup pv cfg w r h0 h1 h2 () he
  exact ⟨this.1, this.2.1, this.2.2.2⟩

open PSA.Deps in
/-- … and a controller request in the same situation is allowed and flagged -/
theorem C07_controller_getter_open (pv) (cfg : Config) (w : World Ev) (r : Request)
    (lister : Option (Lookup Labels)) (client : Lookup Labels)
    (hw : w.getNs = toWorld (getNamespace lister client).result)
    (h0 : r.sub = []) (h1 : exempt r.ns cfg.exNamespaces = false) (h2 : exempt r.user cfg.exUsers = false)
    (hnf : ∀ l, (getNamespace lister client).result ≠ .found l) :
    (validateController pv cfg w r).1.allowed = true ∧ (validateController pv cfg w r).1.annError = true := by
  have he : w.getNs = .error () := hw.trans (toWorld_of_not_found _ hnf)
  exact ⟨C07_controller_open pv cfg w r, C07_controller_ns_lookup pv cfg w r h0 h1 h2 () he⟩

open PSA.Deps in
/-- **The pod listers are faithful**: what the dry run sees is exactly what the API server (or the cache) listed, in that
    order, and a failed listing is a failed listing (never an empty or partial population). -/
theorem C07_listers_faithful {α} (x : Except Unit (List α)) :
    clientListPods x = x ∧ informerListPods x = x := by
  cases x <;> simp [clientListPods, informerListPods]

open PSA.Deps in
/-- non-vacuity: a cache that fails (not NotFound) while the API server has the namespace: not found, server not asked -/
example : (getNamespace (some Lookup.failed) (Lookup.found (1 : Nat))) = { result := .failed, listerAsked := true, clientAsked := false } := by
  decide

#print axioms C07_pod_closed
#print axioms C07_pod_ns_lookup
#print axioms C07_pod_bad_object
#print axioms C07_controller_open
#print axioms C07_controller_ns_lookup
#print axioms C07_controller_bad_object
#print axioms C07_ns_bad_body
#print axioms C07_ns_never_blocked_by_pods
#print axioms C07_labels_evaluated
#print axioms C07_ns_list_failure
#print axioms C07_getter_found_iff
#print axioms C07_getter_asks_client_iff
#print axioms C07_pod_getter_closed
#print axioms C07_controller_getter_open
#print axioms C07_listers_faithful
end PSA.Props
