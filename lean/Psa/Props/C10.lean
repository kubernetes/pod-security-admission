import Psa.AdmitProps
import Psa.Generated.Facts
/-! # C10 — only security-relevant pod updates and subresources are re-evaluated -/
namespace PSA.Props
open PSA

/-- the significance test, characterised: the container or init-container count differs, an image differs position-wise,
    or some new ephemeral container has no same-named old one or a different image than the first same-named old one -/
theorem C10_significant_iff (new old : Pod) :
    isSignificant new old = true ↔
      new.containers.length ≠ old.containers.length ∨ new.initContainers.length ≠ old.initContainers.length ∨
      new.containers.map (·.image) ≠ old.containers.map (·.image) ∨
      new.initContainers.map (·.image) ≠ old.initContainers.map (·.image) ∨
      ∃ c ∈ new.ephemeralContainers, ∀ oc, old.ephemeralContainers.find? (fun oc => oc.name = c.name) = some oc → c.image ≠ oc.image := by
  simp only [isSignificant, images, ephemeralChanged, Bool.or_eq_true, bne_iff_ne, ne_eq, List.any_eq_true, or_assoc]
  refine or_congr_right (or_congr_right (or_congr_right (or_congr_right (exists_congr fun c => and_congr_right fun _ => ?_))))
  cases old.ephemeralContainers.find? (fun oc => oc.name = c.name) <;> simp

/-- **Insignificant updates are allowed** whatever the policy, the evaluator and the labels, and are not evaluated. -/
theorem C10_insignificant (pv) (cfg : Config) (w : World Ev) (r : Request) (p q : PodObj) (labels : Labels)
    (hobj : r.obj = .ok (.pod p)) (hold : r.old = .ok (.pod q)) (hop : r.op = .update)
    (hsig : isSignificant p.pod q.pod = false) (hns : w.getNs = .ok labels) :
    (validatePod pv cfg w r).1.allowed = true ∧ (validatePod pv cfg w r).2.evalCalls = [] :=
  PSA.C10_insignificant pv cfg w r p q hobj hold hop hsig labels hns

/-- **Significant updates are evaluated like a create** of the new pod. -/
theorem C10_significant (pv) (cfg : Config) (w : World Ev) (r : Request) (p q : PodObj)
    (hobj : r.obj = .ok (.pod p)) (hold : r.old = .ok (.pod q)) (hop : r.op = .update)
    (hsig : isSignificant p.pod q.pod = true) :
    validatePod pv cfg w r = validatePod pv cfg w { r with op := .create } := by
  simp only [validatePod, hobj, hold, hop, hsig, ↓reduceIte, reduceCtorEq]

/-- **Every subresource outside the eight ignored names is handled exactly like the main resource.** -/
theorem C10_subresource (pv) (cfg : Config) (w : World Ev) (r : Request)
    (h : ignoredSubresources.contains r.sub = false) :
    validatePod pv cfg w r = validatePod pv cfg w { r with sub := [] } := by
  have h' : ignoredSubresources.contains ([] : Str) = false := by decide
  simp only [validatePod, h, h', Bool.false_eq_true, ↓reduceIte]

/-- the names are matched byte for byte: a spelling that differs in letter case, is padded, or is empty names another
    subresource (or none), which `C10_subresource` says is handled like the main resource -/
example : [b!"Status", b!"STATUS", b!"portForward", b!"Exec", b!"status ", b!"statuses", b!"ephemeralcontainers", b!"resize"].all
    (fun s => !ignoredSubresources.contains s) = true := by decide +kernel

/-- the ignored set is exactly the eight names of the property -/
theorem C10_ignored_names : ignoredSubresources =
    [b!"exec", b!"attach", b!"binding", b!"eviction", b!"log", b!"portforward", b!"proxy", b!"status"] := rfl

example : ignoredSubresources.contains b!"ephemeralcontainers" = false ∧ ignoredSubresources.contains b!"resize" = false := by decide +kernel

/-- tie obligation (F7): the ignored set of the code is the model's — as a set: the harness reads it off the running
    controller (every string literal of package admission and every pod subresource Kubernetes has, tried as the subresource
    of a request that would otherwise be denied), so the order and representation in the source do not matter -/
theorem C10_ignored_tied :
    (Generated.ignoredPodSubresources.all (ignoredSubresources.contains ·) &&
     ignoredSubresources.all (Generated.ignoredPodSubresources.contains ·)) = true := by decide +kernel

#print axioms C10_significant_iff
#print axioms C10_insignificant
#print axioms C10_significant
#print axioms C10_subresource
#print axioms C10_ignored_names
#print axioms C10_ignored_tied
end PSA.Props
