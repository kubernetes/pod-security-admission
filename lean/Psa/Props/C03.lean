import Psa.C03Bridge
import Psa.Examples
/-! # C03 — restricted ⇒ baseline ⇒ privileged, at every version -/
namespace PSA.Props
open PSA

/-- side conditions on the regenerated tables that the override edges rely on (not the full table equality of C02) -/
theorem C03_tables_ok : TablesOK Generated.tables := tables_ok
theorem C03_windows_name : Generated.tables.windows = b!"windows" := tables_windows

theorem C03_order (v : Ver) (p : Pod) (hv : v.requestable) (hp : ApiValid p)
    (h : (aggregate (evalPodModel Generated.tables false ⟨.restricted, v⟩ p)).allowed = true) :
    (aggregate (evalPodModel Generated.tables false ⟨.baseline, v⟩ p)).allowed = true :=
  relaxing_level false .restricted .baseline v p hv hp (by decide) h

/-- the same with the user-namespace switch (C19) in either position: none of the override edges reads it -/
theorem C03_order_any_switch (relax : Bool) (v : Ver) (p : Pod) (hv : v.requestable) (hp : ApiValid p)
    (h : (aggregate (evalPodModel Generated.tables relax ⟨.restricted, v⟩ p)).allowed = true) :
    (aggregate (evalPodModel Generated.tables relax ⟨.baseline, v⟩ p)).allowed = true :=
  relaxing_level relax .restricted .baseline v p hv hp (by decide) h

/-- "relaxing a namespace's level at an unchanged version can never make an existing pod newly non-compliant": for any two
    levels of which the second is no stricter than the first (`CompareLevels l₂ l₁ ≤ 0`), at one version and one switch
    setting, a pod allowed at the first is allowed at the second -/
theorem C03_relaxing_level (relax : Bool) (l₁ l₂ : Level) (v : Ver) (p : Pod) (hv : v.requestable) (hp : ApiValid p)
    (hl : compareLevels l₂ l₁ ≤ 0)
    (h : (aggregate (evalPodModel Generated.tables relax ⟨l₁, v⟩ p)).allowed = true) :
    (aggregate (evalPodModel Generated.tables relax ⟨l₂, v⟩ p)).allowed = true :=
  relaxing_level relax l₁ l₂ v p hv hp hl h

/-- what an evaluator built from a subset of the shipped checks (`policy.NewEvaluator` on some of `DefaultChecks()`) computes -/
def evalSubset (keep : Check RevId → Bool) (relax : Bool) (lv : LevelVersion) (p : Pod) : List CheckOut :=
  ((populate (shipped.filter keep)).evaluate lv.level lv.version).map (fun r => run Generated.tables relax r p)

/-- **the order holds for every evaluator built from a subset of the shipped checks**, at every requestable version, with the
    switch in either position: the resolution rule (C04) keeps a baseline check at restricted unless a restricted check that is
    present overrides it, and each of the five override edges of the shipped table is sound for API-valid pods -/
theorem C03_order_every_subset (keep : Check RevId → Bool) (relax : Bool) (v : Ver) (p : Pod) (hv : v.requestable) (hp : ApiValid p)
    (h : allowedAll (evalSubset keep relax ⟨.restricted, v⟩ p) = true) :
    allowedAll (evalSubset keep relax ⟨.baseline, v⟩ p) = true :=
  PSA.C03_order_subset _ C03_tables_ok relax keep v p hv ((apiValid_tables _ C03_windows_name p).mp hp) h

/-- keeping every check is the shipped evaluator: `C03_order_every_subset` contains `C03_order_any_switch` -/
theorem C03_subset_all (relax : Bool) (lv : LevelVersion) (p : Pod) :
    allowedAll (evalSubset (fun _ => true) relax lv p) = (aggregate (evalPodModel Generated.tables relax lv p)).allowed := by
  rw [evalPodModel_allowed]
  have h : shipped.filter (fun _ => true) = shipped := List.filter_eq_self.mpr (fun _ _ => rfl)
  simp only [evalSubset, evalShipped, h]

/-- the edges that argument rests on are all the override edges there are (re-derived from the regenerated metadata) -/
theorem C03_edges_complete : ∀ V, V ≤ 32 → edgesOK V = true := shipped_edgesOK

/-- non-vacuity: the evaluator built from the baseline checks and `seccompProfile_restricted` alone allows, at restricted, a pod
    that the full evaluator denies there — subsets are different evaluators — and the pod is allowed at its baseline -/
example :
    let keep : Check RevId → Bool := fun c => c.level == .baseline || c.id == b!"seccompProfile_restricted"
    let p : Pod := { containers := [{ name := b!"c", sc := some { seccompType := some b!"RuntimeDefault" } }] }
    ApiValid p ∧ allowedAll (evalSubset keep false ⟨.restricted, .latest⟩ p) = true ∧
    (aggregate (evalPodModel Generated.tables false ⟨.restricted, .latest⟩ p)).allowed = false ∧
    allowedAll (evalSubset keep false ⟨.baseline, .latest⟩ p) = true := by
  intro keep p
  simp only [evalPodModel_stdRevs _ _ _ _ _ (.inl rfl), evalSubset,
    C04_resolves _ (wellFormed_filter shipped keep shipped_wf) _ _ (.inl rfl)]
  decide +kernel

/-- every pod is allowed at privileged: nothing runs -/
theorem C03_privileged (relax : Bool) (v : Ver) (p : Pod) :
    evalPodModel Generated.tables relax ⟨.privileged, v⟩ p = [] ∧
    (aggregate (evalPodModel Generated.tables relax ⟨.privileged, v⟩ p)).allowed = true := by
  rw [evalPodModel_privileged]; exact ⟨rfl, rfl⟩

/-- non-vacuity: a pod that is allowed at restricted exists (C03_order's premise is satisfiable), and the order is strict -/
example : ApiValid Ex.compliantPod ∧ (aggregate (evalPodModel Generated.tables false ⟨.restricted, .latest⟩ Ex.compliantPod)).allowed = true ∧
    (aggregate (evalPodModel Generated.tables false ⟨.baseline, .latest⟩ Ex.plainPod.pod)).allowed = true ∧
    (aggregate (evalPodModel Generated.tables false ⟨.restricted, .latest⟩ Ex.plainPod.pod)).allowed = false := by
  simp only [evalPodModel_stdRevs _ _ _ _ _ (.inl rfl)]
  decide +kernel

/-- non-vacuity with the switch on: a pod in a user namespace that runs as root is allowed at restricted only because of the
    switch — and then at baseline too -/
example :
    let p : Pod := { hostUsers := some false,
                     containers := [{ name := b!"c", sc := some { Ex.compliantSC with runAsNonRoot := none, runAsUser := some 0 } }] }
    ApiValid p ∧ (aggregate (evalPodModel Generated.tables true ⟨.restricted, .latest⟩ p)).allowed = true ∧
    (aggregate (evalPodModel Generated.tables false ⟨.restricted, .latest⟩ p)).allowed = false ∧
    (aggregate (evalPodModel Generated.tables true ⟨.baseline, .latest⟩ p)).allowed = true := by
  intro p
  simp only [evalPodModel_stdRevs _ _ _ _ _ (.inl rfl)]
  decide +kernel

#print axioms C03_tables_ok
#print axioms C03_order
#print axioms C03_order_any_switch
#print axioms C03_relaxing_level
#print axioms C03_order_every_subset
#print axioms C03_edges_complete
#print axioms C03_subset_all
#print axioms C03_privileged
end PSA.Props
