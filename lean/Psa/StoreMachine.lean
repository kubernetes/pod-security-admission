import Psa.Str
/-! What fact F6 buys, as a machine. The program is the list of *store instructions to fields of an AdmissionResponse* that
    factx finds in the request-handling code, each with the origin of the pointer it stores through. A request handler
    executes any of these instructions, any number of times, with any values; any number of handlers run interleaved. A
    store through a freshly allocated response (or a constructor's result) lands in a cell only that handler can reach and is
    not part of the shared state; a store through `shared:<object>` lands in the process-wide object every handler returns on
    the common allow paths. -/
namespace PSA.StoreMachine
open PSA

structure Instr where
  fn : Str
  field : Str
  origin : Str
  deriving DecidableEq, Repr

def sharedPrefix : Str := b!"shared:"

/-- the shared object a store goes to, if it goes to one -/
def sharedTarget (i : Instr) : Option Str :=
  if sharedPrefix.isPrefixOf i.origin then some (i.origin.drop sharedPrefix.length) else none

/-- the shared state: (object, field) ↦ value -/
abbrev Shared := List ((Str × Str) × Nat)

def write (s : Shared) (k : Str × Str) (v : Nat) : Shared := (k, v) :: s.filter (·.1 ≠ k)

/-- one handler step: execute instruction number `i` of the program with value `v` -/
def step (prog : List Instr) (s : Shared) (iv : Nat × Nat) : Shared :=
  match prog[iv.1]? with
  | none => s
  | some ins => match sharedTarget ins with
    | none => s                                  -- a private cell: invisible to everyone else
    | some obj => write s (obj, ins.field) iv.2

/-- any interleaving of any number of handlers = any sequence of (instruction, value) pairs -/
def run (prog : List Instr) (s : Shared) (sched : List (Nat × Nat)) : Shared := sched.foldl (step prog) s

theorem step_fresh (prog : List Instr) (h : ∀ i ∈ prog, sharedTarget i = none) (s : Shared) (iv : Nat × Nat) :
    step prog s iv = s := by
  unfold step
  cases hp : prog[iv.1]? with
  | none => rfl
  | some ins => simp [h ins (List.mem_of_getElem? hp)]

/-- if no instruction of the program stores through a shared object, no schedule changes the shared state -/
theorem run_fresh (prog : List Instr) (h : ∀ i ∈ prog, sharedTarget i = none) (s : Shared) (sched : List (Nat × Nat)) :
    run prog s sched = s :=
  List.foldlRecOn sched (step prog) (motive := (· = s)) rfl fun _ hb iv _ => by rw [step_fresh prog h, hb]

/-- and one instruction that does is enough to change it -/
example : run [⟨b!"HandleValidate", b!"UID", b!"shared:sharedAllowedResponse"⟩] [] [(0, 7)] ≠ [] := by decide

end PSA.StoreMachine
