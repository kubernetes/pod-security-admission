import Psa.C02
/-! The order of the levels for EVERY evaluator built from a subset of the shipped checks (`policy.NewEvaluator` takes any
    well-formed check list; embedders do pass subsets). A generic lemma about the resolution rule `spec`: if, at version V,
    every override edge present in the check set is sound for a predicate `ok` on revisions, then `ok` on everything the
    restricted level runs implies `ok` on everything the baseline level runs. Then the edges of the shipped table are
    enumerated by the kernel and each is discharged by the checks' specifications. None of the eight revisions on the five edges
    takes the user-namespace switch of C19, and the three revisions that do are on no edge, so the order holds with the switch in either
    position. The shipped evaluator is the subset that keeps every check. -/
namespace PSA

section generic
variable {α : Type}

/-- every override edge present at `V`: a restricted check's selected revision `r` names baseline id `o`, whose selected
    revision is `b` -/
def EdgesSound (cs : List (Check α)) (V : Nat) (ok : α → Prop) : Prop :=
  ∀ rid ∈ (cs.filter (fun c => c.level == .restricted)).map (·.id), ∀ r, selById cs V rid = some r →
    ∀ o ∈ r.overrides, ∀ b, selById cs V o = some b → ok r.fn → ok b.fn

theorem spec_order (cs : List (Check α)) (V : Nat) (ok : α → Prop) (hE : EdgesSound cs V ok)
    (h : ∀ x ∈ spec cs .restricted V, ok x) : ∀ x ∈ spec cs .baseline V, ok x := by
  intro x hx
  simp only [spec, List.mem_filterMap, Option.map_eq_some_iff] at hx
  obtain ⟨id, hid, b, hb, rfl⟩ := hx
  by_cases hov : ((sortIds ((cs.filter (fun c => c.level == .restricted)).map (·.id))).flatMap
      (fun id => overridesOf (selById cs V id))).contains id = true
  · -- overridden: some restricted revision present names it
    rw [List.contains_iff_mem, List.mem_flatMap] at hov
    obtain ⟨rid, hrid, hmem⟩ := hov
    rw [mem_sortIds] at hrid
    cases hr : selById cs V rid with
    | none => simp [hr, overridesOf] at hmem
    | some r =>
      simp only [hr, overridesOf] at hmem
      have hokr : ok r.fn := by
        apply h
        simp only [spec, List.mem_append, List.mem_filterMap, Option.map_eq_some_iff]
        exact Or.inr ⟨rid, (mem_sortIds _ _).mpr hrid, r, hr, rfl⟩
      exact hE rid hrid r hr id hmem b hb hokr
  · -- not overridden: the restricted level runs it too
    apply h
    simp only [spec, List.mem_append, List.mem_filterMap, Option.map_eq_some_iff, List.mem_filter]
    refine Or.inl ⟨id, ⟨hid, ?_⟩, b, hb, rfl⟩
    simpa using hov

theorem selById_filter_some (cs : List (Check α)) (keep : Check α → Bool) (V : Nat) (id : Str) (r : Rev α)
    (hn : (cs.map (·.id)).Nodup) (h : selById (cs.filter keep) V id = some r) : selById cs V id = some r := by
  simp only [selById, findCheck_filter cs keep hn id] at h ⊢
  cases hf : findCheck cs id with
  | none => simp [hf, Option.filter] at h
  | some c =>
    rw [hf] at h
    by_cases hk : keep c = true
    · simpa [Option.filter, hk] using h
    · simp [Option.filter, hk] at h

theorem edgesSound_filter (cs : List (Check α)) (keep : Check α → Bool) (V : Nat) (ok : α → Prop)
    (hn : (cs.map (·.id)).Nodup) (h : EdgesSound cs V ok) : EdgesSound (cs.filter keep) V ok := by
  intro rid hrid r hr o ho b hb
  refine h rid ?_ r (selById_filter_some cs keep V rid r hn hr) o ho b (selById_filter_some cs keep V o b hn hb)
  simp only [List.mem_map, List.mem_filter] at hrid ⊢
  obtain ⟨c, ⟨⟨hc, _⟩, hl⟩, rfl⟩ := hrid
  exact ⟨c, ⟨hc, hl⟩, rfl⟩

end generic

/-- the override edges of the shipped table: (overriding restricted revision, overridden baseline revision) -/
def edgeList : List (RevId × RevId) :=
  [(.capsRestricted22, .capsBaseline0), (.capsRestricted25, .capsBaseline0), (.restrictedVolumes0, .hostPath0),
   (.seccompR19, .seccompB19), (.seccompR25, .seccompB19)]

/-- each edge is sound for API-valid pods, with the switch in either position (none of the revisions involved takes it) -/
theorem edge_sound (T : Tables) (hT : TablesOK T) (relax : Bool) (p : Pod) (hp : ApiValidT T p) :
    ∀ e ∈ edgeList, (run T relax e.1 p).allowed = true → (run T relax e.2 p).allowed = true := by
  have std (r : RevId) : (run T false r p).allowed = true ↔ Std.ofRev T r p := run_allowed_iff T r p
  intro e he
  simp only [edgeList, List.mem_cons, List.not_mem_nil, or_false] at he
  rcases he with rfl | rfl | rfl | rfl | rfl
  · exact fun h => (std .capsBaseline0).mpr (capabilities_of_restricted T hT p hp (.inr ((std .capsRestricted22).mp h)))
  · exact fun h => (std .capsBaseline0).mpr (capabilities_of_restricted T hT p hp ((std .capsRestricted25).mp h))
  · exact fun h => (std .hostPath0).mpr (volumeTypes_hostPath T p hT.hostPathNotAllowed hp.1 ((std .restrictedVolumes0).mp h))
  · exact fun h => (std .seccompB19).mpr (seccompField_of_required T p hp (.inr ((std .seccompR19).mp h)))
  · exact fun h => (std .seccompB19).mpr (seccompField_of_required T p hp ((std .seccompR25).mp h))

/-- the shipped table has no other edges, at any version up to the newest -/
def edgesOK (V : Nat) : Bool :=
  ((shipped.filter (fun c => c.level == .restricted)).map (·.id)).all fun rid =>
    match selById shipped V rid with
    | none => true
    | some r => r.overrides.all fun o =>
        match selById shipped V o with
        | none => true
        | some b => edgeList.contains (r.fn, b.fn)

theorem shipped_edgesOK : ∀ V, V ≤ 32 → edgesOK V = true := by decide +kernel

theorem shipped_mins_le : ∀ c ∈ shipped, ∀ r ∈ c.revs, r.min.minor ≤ 32 := by decide +kernel

theorem selById_shipped_clamp (V : Nat) (id : Str) : selById shipped V id = selById shipped (min V 32) id := by
  by_cases hV : V ≤ 32
  · rw [Nat.min_eq_left hV]
  · have h32 : 32 ≤ V := by omega
    rw [Nat.min_eq_right h32]
    simp only [selById]
    cases hf : findCheck shipped id with
    | none => rfl
    | some c =>
      have hc : c ∈ shipped := List.mem_of_find?_eq_some hf
      simp only [Option.bind_some, selected]
      congr 1
      apply List.filter_congr
      intro r hr
      have := shipped_mins_le c hc r hr
      simp only [decide_eq_decide]
      omega

theorem shipped_edgesSound (T : Tables) (hT : TablesOK T) (relax : Bool) (p : Pod) (hp : ApiValidT T p) (V : Nat) :
    EdgesSound shipped V (fun r => (run T relax r p).allowed = true) := by
  intro rid hrid r hr o ho b hb
  rw [selById_shipped_clamp] at hr hb
  have hok := shipped_edgesOK (min V 32) (Nat.min_le_right V 32)
  simp only [edgesOK, List.all_eq_true] at hok
  have h1 := hok rid hrid
  simp only [hr, List.all_eq_true] at h1
  have h2 := h1 o ho
  simp only [hb] at h2
  exact edge_sound T hT relax p hp (r.fn, b.fn) (List.contains_iff_mem.mp h2)

/-- **C03 for every evaluator built from a subset of the shipped checks**: whatever checks are kept, at every requestable
    version and with the switch in either position, an API-valid pod allowed at restricted is allowed at baseline -/
theorem C03_order_subset (T : Tables) (hT : TablesOK T) (relax : Bool) (keep : Check RevId → Bool) (v : Ver) (p : Pod)
    (hv : v = .latest ∨ ∃ n, v = .mm 1 n) (hp : ApiValidT T p)
    (h : allowedAll (((populate (shipped.filter keep)).evaluate .restricted v).map (fun r => run T relax r p)) = true) :
    allowedAll (((populate (shipped.filter keep)).evaluate .baseline v).map (fun r => run T relax r p)) = true := by
  have hwf := wellFormed_filter shipped keep shipped_wf
  rw [C04_resolves _ hwf _ v hv] at h ⊢
  generalize clampV (maxVersionOf (shipped.filter keep)).minor v = V at h ⊢
  rw [allowedAll_map] at h ⊢
  exact spec_order _ V (fun r => (run T relax r p).allowed = true)
    (edgesSound_filter shipped keep V _ shipped_wf.ids (shipped_edgesSound T hT relax p hp V)) h

/-- keeping every check gives the shipped evaluator -/
theorem C03_order_any_switch (T : Tables) (hT : TablesOK T) (relax : Bool) (v : Ver) (p : Pod)
    (hv : v = .latest ∨ ∃ n, v = .mm 1 n) (hp : ApiValidT T p) :
    allowedAll (evalShipped T relax .restricted v p) = true → allowedAll (evalShipped T relax .baseline v p) = true := by
  have h := C03_order_subset T hT relax (fun _ => true) v p hv hp
  rwa [List.filter_eq_self.mpr (fun _ _ => rfl)] at h

/-- C03: at every version, restricted ⇒ baseline, for every API-valid pod; needs only the two table side conditions -/
theorem C03_order (T : Tables) (hT : TablesOK T) (v : Ver) (p : Pod) (hv : v = .latest ∨ ∃ n, v = .mm 1 n)
    (hp : ApiValidT T p) :
    allowedAll (evalShipped T false .restricted v p) = true → allowedAll (evalShipped T false .baseline v p) = true :=
  C03_order_any_switch T hT false v p hv hp

/-- relaxing the level at an unchanged version and switch setting never denies a pod that was allowed: a level is no stricter
    than another (`CompareLevels l₂ l₁ ≤ 0`) when it is the same, or privileged, or baseline against restricted -/
theorem C03_relaxing_level (T : Tables) (hT : TablesOK T) (relax : Bool) (l₁ l₂ : Level) (v : Ver) (p : Pod)
    (hv : v = .latest ∨ ∃ n, v = .mm 1 n) (hp : ApiValidT T p) (hl : compareLevels l₂ l₁ ≤ 0)
    (h : allowedAll (evalShipped T relax l₁ v p) = true) : allowedAll (evalShipped T relax l₂ v p) = true := by
  cases l₂ with
  | privileged => rw [C03_privileged]; rfl
  | baseline =>
    cases l₁ with
    | privileged => exact absurd hl (by decide)
    | baseline => exact h
    | restricted => exact C03_order_any_switch T hT relax v p hv hp h
  | restricted =>
    cases l₁ with
    | privileged => exact absurd hl (by decide)
    | baseline => exact absurd hl (by decide)
    | restricted => exact h

#print axioms spec_order
#print axioms C03_order_subset
#print axioms C03_order_any_switch
#print axioms C03_order
end PSA
