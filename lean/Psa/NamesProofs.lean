import Psa.Render
/-! The rendered detail of every control that is about containers or volumes contains, in quotes, the name of every object
    the structured result lists as an offender (C13 "names the offenders by name", for every detail shape). -/
namespace PSA

/-- `"name"` as joinQuote writes it -/
def quoted (n : Str) : Str := b!"\"" ++ n ++ b!"\""

theorem joinQuote_eq_join (l : List Str) : joinQuote l = Str.join b!", " (l.map quoted) := by
  induction l with
  | nil => rfl
  | cons a r ih =>
    cases r with
    | nil => simp [joinQuote, Str.join, quoted]
    | cons b r' => simpa [joinQuote, Str.join, quoted] using ih

/-- an element of a joined list occurs in the join, with whatever stands before and after it -/
theorem mem_infix_join (sep : Str) (l : List Str) (x : Str) (hx : x ∈ l) : x <:+: Str.join sep l := by
  obtain ⟨s, t, rfl⟩ := List.append_of_mem hx
  rw [← List.singleton_append, Str.join_append, Str.join_append]
  exact List.infix_append_of_infix_right (List.infix_append_of_infix_left List.infix_append_left)

/-- in a quoted, comma-separated list every member appears between its own quotes -/
theorem quoted_infix_joinQuote (l : List Str) (n : Str) (hn : n ∈ l) : quoted n <:+: joinQuote l := by
  rw [joinQuote_eq_join]
  exact mem_infix_join _ _ _ (List.mem_map_of_mem hn)

theorem quoted_infix_ctrs (cs : List Str) (n : Str) (hn : n ∈ cs) : quoted n <:+: ctrs cs :=
  List.infix_append_of_infix_right (quoted_infix_joinQuote cs n hn)

/-- `setters o` has a `container(s) …` part as soon as a container is listed -/
theorem ctrs_mem_setters {o : CheckOut} {n : Str} (hn : n ∈ o.containers) : ctrs o.containers ∈ setters o := by
  simp [setters, List.ne_nil_of_mem hn]

theorem quoted_infix_andJoin {o : CheckOut} {n : Str} (hn : n ∈ o.containers) {l : List Str} (hl : ctrs o.containers ∈ l) :
    quoted n <:+: andJoin l :=
  (quoted_infix_ctrs _ n hn).trans (mem_infix_join _ _ _ hl)

/-- the objects a control's detail must name -/
def Kind.named (k : Kind) (o : CheckOut) : List Str :=
  match k with
  | .hostNamespaces | .seccompAnn | .sysctls => []
  | .hostPath | .restrictedVolumes => o.volumes
  | .capsRestricted => o.containers ++ o.containers2
  | .runAsNonRoot | .seccompRestricted => if o.pod || !o.containers.isEmpty then o.containers else o.containers2
  | _ => o.containers

/-- **Every detail shape names its offenders**: for each of the eighteen message shapes, every container / volume the
    structured result lists appears in the detail text between quotes. -/
theorem detail_names (k : Kind) (o : CheckOut) (n : Str) (hn : n ∈ k.named o) : quoted n <:+: k.detail o := by
  -- nested to the right a detail is `head ++ rest`, and most shapes name their offenders in the head
  cases k <;> simp only [Kind.named, Kind.detail, List.append_assoc] at hn ⊢
  case hostNamespaces | seccompAnn | sysctls => cases hn
  case privileged | hostPorts | capsBaseline | procMount | allowPrivEsc =>
    exact List.infix_append_of_infix_left (quoted_infix_ctrs _ n hn)
  case seLinux | seccompField | hostProcess | runAsUser =>
    exact List.infix_append_of_infix_left (quoted_infix_andJoin hn (ctrs_mem_setters hn))
  case appArmor =>
    exact List.infix_append_of_infix_left (quoted_infix_andJoin hn (List.mem_append_left _ (ctrs_mem_setters hn)))
  case hostPath => exact List.infix_append_of_infix_right (List.infix_append_of_infix_right (quoted_infix_joinQuote _ n hn))
  case restrictedVolumes =>
    exact List.infix_append_of_infix_right (List.infix_append_of_infix_right
      (List.infix_append_of_infix_left (quoted_infix_joinQuote _ n hn)))
  case capsRestricted =>
    rcases List.mem_append.mp hn with h | h
    · rw [if_neg (by simpa using List.ne_nil_of_mem h : ¬ o.containers.isEmpty = true)]
      exact (List.infix_append_of_infix_left (quoted_infix_ctrs _ n h)).trans
        (mem_infix_join _ _ _ (List.mem_append_left _ (List.mem_singleton_self _)))
    · rw [if_neg (by simpa using List.ne_nil_of_mem h : ¬ o.containers2.isEmpty = true)]
      exact (List.infix_append_of_infix_left (quoted_infix_ctrs _ n h)).trans
        (mem_infix_join _ _ _ (List.mem_append_right _ (List.mem_singleton_self _)))
  case runAsNonRoot | seccompRestricted =>
    by_cases hc : (o.pod || !o.containers.isEmpty) = true <;> simp only [hc, ↓reduceIte] at hn ⊢
    · exact List.infix_append_of_infix_left (quoted_infix_andJoin hn (ctrs_mem_setters hn))
    · exact List.infix_append_of_infix_right (List.infix_append_of_infix_left (quoted_infix_ctrs _ n hn))

end PSA
