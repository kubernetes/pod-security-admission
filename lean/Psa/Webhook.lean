import Psa.Str
namespace PSA.Webhook
open PSA

/-- HandleValidate's request screening, in the order the handler tests: what HTTP status a request is answered with
    before (200) or instead of reaching the admission library -/
def classify (maxSize : Nat) (empty : Bool) (size : Nat) (contentType : Str) (decodes v1review hasRequest : Bool) : Nat :=
  if empty then 400
  else if size ≥ maxSize then 413
  else if contentType ≠ b!"application/json" then 400
  else if !decodes then 400
  else if !v1review then 400
  else if !hasRequest then 400
  else 200

/-- Every test that fails answers 400 or 413, so whatever holds of the status and of neither of these holds of 200, past
    all six tests. -/
theorem classify_iff (P : Nat → Prop) (h400 : ¬ P 400) (h413 : ¬ P 413) (maxSize : Nat) (empty : Bool) (size : Nat)
    (ct : Str) (decodes v1review hasRequest : Bool) :
    P (classify maxSize empty size ct decodes v1review hasRequest) ↔
      (empty = false ∧ size < maxSize ∧ ct = b!"application/json" ∧ decodes = true ∧ v1review = true ∧ hasRequest = true) ∧
      P 200 := by
  simp only [classify, ite_iff_of_not P _ h400, ite_iff_of_not P _ h413]
  simp [and_assoc]

inductive Variant | writesThroughReturned | copies deriving DecidableEq, Repr
inductive Ptr | shared | own deriving DecidableEq, Repr

/-- one in-flight request -/
structure Th where
  uid : Nat
  sharedPath : Bool          -- Validate returns the process-wide shared response for this request
  pc : Nat := 0              -- 0: call Validate; 1: set UID; 2: encode; 3: done
  ptr : Ptr := .own
  own : Nat := 0             -- uid field of this thread's private response object
  out : Option Nat := none   -- uid written to the wire
  deriving DecidableEq, Repr

structure St where
  shared : Nat := 0          -- uid field of the shared response object
  ths : List Th
  deriving DecidableEq, Repr

def stepTh (var : Variant) (shared : Nat) (t : Th) : Nat × Th :=
  match t.pc with
  | 0 => (shared, { t with pc := 1, ptr := if t.sharedPath then .shared else .own })
  | 1 => match var, t.ptr with
    | .copies, _ => (shared, { t with pc := 2, ptr := .own, own := t.uid })        -- copy, then write the copy
    | .writesThroughReturned, .shared => (t.uid, { t with pc := 2 })               -- write the shared object
    | .writesThroughReturned, .own => (shared, { t with pc := 2, own := t.uid })
  | 2 => (shared, { t with pc := 3, out := some (match t.ptr with | .shared => shared | .own => t.own) })
  | _ => (shared, t)

def step (var : Variant) (s : St) (i : Nat) : St :=
  match s.ths[i]? with
  | none => s
  | some t => let (sh, t') := stepTh var s.shared t; { shared := sh, ths := s.ths.set i t' }

def run (var : Variant) (s : St) (sched : List Nat) : St := sched.foldl (step var) s

/-- per-thread invariant of the repaired handler -/
def Good (t : Th) : Prop :=
  (t.pc ≥ 2 → t.ptr = .own ∧ t.own = t.uid) ∧ (∀ u, t.out = some u → u = t.uid) ∧ (t.pc ≤ 1 → t.out = none)

theorem stepTh_good (sh : Nat) (t : Th) (h : Good t) : Good (stepTh .copies sh t).2 := by
  obtain ⟨h1, h2, h3⟩ := h
  unfold stepTh Good
  split
  -- at pc 0 and 1 nothing has been written yet; at pc 2 the pointer is the thread's own copy, which holds its uid
  · simp [h3 (by omega)]
  · simp [h3 (by omega)]
  · simp [h1 (by omega)]
  · exact ⟨h1, h2, h3⟩

theorem step_good (s : St) (i : Nat) (h : ∀ t ∈ s.ths, Good t) : ∀ t ∈ (step .copies s i).ths, Good t := by
  unfold step
  split
  · exact h
  · next t ht =>
    intro t' ht'
    rcases List.mem_or_eq_of_mem_set ht' with hm | rfl
    · exact h t' hm
    · exact stepTh_good _ _ (h t (List.mem_of_getElem? ht))

/-- C16 (uid part), repaired handler: under every schedule, whatever is written for a request carries its own uid -/
theorem C16_uid (s : St) (sched : List Nat) (h0 : ∀ t ∈ s.ths, Good t) :
    ∀ t ∈ (run .copies s sched).ths, ∀ u, t.out = some u → u = t.uid :=
  fun t ht => (List.foldlRecOn sched (step .copies) h0 (fun s hs i _ => step_good s i hs) t ht).2.1

/-- the unrepaired handler: two overlapping requests on the shared path, one gets the other's uid -/
theorem C16_buggy_witness :
    ∃ sched, ∃ t ∈ (run .writesThroughReturned ⟨0, [{ uid := 1, sharedPath := true }, { uid := 2, sharedPath := true }]⟩ sched).ths,
      t.out = some 2 ∧ t.uid = 1 :=
  ⟨[0, 1, 0, 1, 0], by decide⟩

end PSA.Webhook
