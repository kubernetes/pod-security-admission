import Psa.Standard
import Psa.ShippedProofs
import Psa.Eval
/-! C02 on the structured results: with the switch off, the shipped evaluator allows a pod at a level and version exactly
    when the pod meets the Standard's profile of that level at that version (`Std.baseline`, `Std.restricted`). -/
namespace PSA

theorem allowedAll_map {α : Type} (f : α → CheckOut) (l : List α) :
    allowedAll (l.map f) = true ↔ ∀ x ∈ l, (f x).allowed = true := by
  simp [allowedAll]

/-- with the switch off, the shipped evaluator allows a pod iff the pod meets the Standard's predicate of every revision in
    force -/
theorem evalShipped_allowed_iff (T : Tables) (l : Level) (v : Ver) (p : Pod) (hv : v = .latest ∨ ∃ n, v = .mm 1 n) :
    allowedAll (evalShipped T false l v p) = true ↔ ∀ r ∈ stdRevs l v, Std.ofRev T r p := by
  simp only [evalShipped, shipped_evaluate l v hv, allowedAll_map, run_allowed_iff]

theorem C02_baseline (T : Tables) (v : Ver) (p : Pod) (hv : v = .latest ∨ ∃ n, v = .mm 1 n) :
    allowedAll (evalShipped T false .baseline v p) = true ↔ Std.baseline T (clampV 32 v) p := by
  rw [evalShipped_allowed_iff T .baseline v p hv]
  simp only [stdRevs, activeBaseline, List.forall_mem_cons, List.not_mem_nil, false_imp_iff, implies_true, and_true,
    apply_ite (Std.ofRev T · p)]
  simp only [Std.ofRev, Std.baseline, apply_ite (Std.seLinux · p), apply_ite (Std.sysctls · p)]

/-! The three override edges on the Standard's side: what a restricted control asks implies what the baseline control it
    replaces asks. A windows pod, which the v1.25 revisions let through, has no capabilities and no seccomp profile at all. -/

theorem volumeTypes_hostPath (T : Tables) (p : Pod) (hT : VolKind.hostPath ∉ T.volAllowed)
    (hv : ∀ v ∈ p.volumes, v.sources.length ≤ 1) : Std.volumeTypes T p → Std.hostPath p := by
  intro h v hvm hhp
  obtain ⟨k, hk, hka⟩ := h v hvm
  have h1 := hv v hvm
  match hs : v.sources, h1, hk, hhp with
  | [x], _, hk, hhp =>
    simp only [hs, List.mem_singleton] at *
    subst hk; subst hhp; exact hT hka
  | [], _, hk, _ => simp at hk
  | _ :: _ :: _, h1, _, _ => simp at h1

theorem capabilities_of_restricted (T : Tables) (hT : TablesOK T) (p : Pod) (hp : ApiValidT T p) :
    p.windowsOS T = true ∨ Std.capabilitiesRestricted T p → Std.capabilities T p := by
  intro h c hc k hk x hx
  rcases h with hw | h
  · rw [((hp.2 hw).2 c hc).2.1] at hk; cases hk
  · obtain ⟨k', hk', _, hadd⟩ := h c hc
    rw [hk] at hk'; cases hk'
    exact hT.restrictedAddSub x (hadd x hx)

theorem seccompField_of_required (T : Tables) (p : Pod) (hp : ApiValidT T p) :
    p.windowsOS T = true ∨ Std.seccompRequired T p → Std.seccompField T p := by
  rintro (hw | h)
  · refine ⟨fun t ht => ?_, fun c hc t ht => ?_⟩
    · rw [(hp.2 hw).1] at ht; cases ht
    · rw [((hp.2 hw).2 c hc).1] at ht; cases ht
  · exact h.1

theorem forall_mem_ite {α : Type} (c : Prop) [Decidable c] (a b : List α) (P : α → Prop) :
    (∀ x ∈ (if c then a else b), P x) ↔ (c → ∀ x ∈ a, P x) ∧ (¬c → ∀ x ∈ b, P x) := by
  split <;> simp [*]

/-- a Linux-only restricted control: revision `r` from v1.`lo`, and from v1.25 revision `r'`, which lets windows pods through -/
theorem forall_mem_linuxOnly (T : Tables) (V : Nat) (p : Pod) (lo : Nat) (r r' : RevId)
    (h : Std.ofRev T r' p ↔ (p.windowsOS T = true ∨ Std.ofRev T r p)) :
    (∀ x ∈ (if V < lo then [] else if V < 25 then [r] else [r']), Std.ofRev T x p) ↔
      (lo ≤ V → Std.linuxOnly T V p (Std.ofRev T r p)) := by
  unfold Std.linuxOnly
  by_cases h₁ : V < lo
  · simp [h₁, Nat.not_le_of_lt h₁]
  · by_cases h₂ : V < 25
    · simp [h₁, h₂, Nat.le_of_not_lt h₁, Nat.not_le_of_lt h₂]
    · simp [h₁, h₂, h, Nat.le_of_not_lt h₁, Nat.le_of_not_lt h₂]

theorem C02_restricted (T : Tables) (hT : TablesOK T) (v : Ver) (p : Pod) (hv : v = .latest ∨ ∃ n, v = .mm 1 n)
    (hp : ApiValidT T p) :
    allowedAll (evalShipped T false .restricted v p) = true ↔ Std.restricted T (clampV 32 v) p := by
  rw [evalShipped_allowed_iff T .restricted v p hv, stdRevs]
  generalize clampV 32 v = V
  have hHP := volumeTypes_hostPath T p hT.hostPathNotAllowed hp.1
  have hCap : Std.linuxOnly T V p (Std.capabilitiesRestricted T p) → Std.capabilities T p :=
    fun h => capabilities_of_restricted T hT p hp (h.imp_left And.right)
  have hSec : Std.linuxOnly T V p (Std.seccompRequired T p) → Std.seccompField T p :=
    fun h => seccompField_of_required T p hp (h.imp_left And.right)
  simp only [activeRestricted, List.forall_mem_append,
    forall_mem_linuxOnly T V p 8 .allowPrivEsc8 .allowPrivEsc25 Iff.rfl,
    forall_mem_linuxOnly T V p 19 .seccompR19 .seccompR25 Iff.rfl,
    forall_mem_linuxOnly T V p 22 .capsRestricted22 .capsRestricted25 Iff.rfl]
  simp only [forall_mem_ite, List.forall_mem_cons, List.not_mem_nil, false_imp_iff, implies_true, and_true, true_and,
    apply_ite (Std.ofRev T · p)]
  simp only [Std.ofRev, Std.restricted, Std.baseline, apply_ite (Std.seLinux · p), apply_ite (Std.sysctls · p)]
  -- both sides are now the same conjunction, but for the three overridden baseline controls
  grind

#print axioms C02_restricted
end PSA
