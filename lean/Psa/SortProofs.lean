import Psa.Str
/-! `sortStrs` (sort.Strings) and `sortDedup` (sets.String.List) are characterised: sorted + permutation / same members,
    so any correct sort agrees with them, and they are invariant under permutation of the input. -/
namespace PSA

theorem insertStr_perm (x : Str) (l : List Str) : (insertStr x l).Perm (x :: l) := by
  induction l with
  | nil => exact .refl _
  | cons y ys ih =>
    simp only [insertStr]
    split
    · exact .refl _
    · exact (ih.cons y).trans (.swap x y ys)

theorem sortStrs_perm (l : List Str) : (sortStrs l).Perm l := by
  induction l with
  | nil => exact .refl _
  | cons x xs ih => exact (insertStr_perm x _).trans (ih.cons x)

theorem insertStr_sorted (x : Str) (l : List Str) (h : l.Pairwise (· ≤ ·)) : (insertStr x l).Pairwise (· ≤ ·) := by
  induction l with
  | nil => simp [insertStr]
  | cons y ys ih =>
    obtain ⟨hy, hys⟩ := List.pairwise_cons.mp h
    simp only [insertStr]
    split
    · next hlt =>
      exact List.pairwise_cons.mpr
        ⟨fun z hz => Std.le_trans (Std.le_of_lt hlt) (List.forall_mem_cons.mpr ⟨Std.le_refl y, hy⟩ z hz), h⟩
    · next hge =>
      exact List.pairwise_cons.mpr
        ⟨fun z hz => List.forall_mem_cons.mpr ⟨Std.not_lt.mp hge, hy⟩ z ((insertStr_perm x ys).mem_iff.mp hz), ih hys⟩

theorem sortStrs_sorted (l : List Str) : (sortStrs l).Pairwise (· ≤ ·) := by
  induction l with
  | nil => exact .nil
  | cons x xs ih => exact insertStr_sorted x _ ih

/-- sort.Strings does not depend on the order of its input -/
theorem sortStrs_eq_of_perm (l l' : List Str) (h : l.Perm l') : sortStrs l = sortStrs l' :=
  List.Perm.eq_of_pairwise (le := (· ≤ ·)) (fun _ _ _ _ => Std.le_antisymm) (sortStrs_sorted l) (sortStrs_sorted l')
    ((sortStrs_perm l).trans (h.trans (sortStrs_perm l').symm))

theorem mem_insertDedup (a x : Str) (l : List Str) : a ∈ insertDedup x l ↔ a = x ∨ a ∈ l := by
  induction l with
  | nil => simp [insertDedup]
  | cons y ys ih =>
    simp only [insertDedup]
    split
    · simp
    · split
      · next heq => simp [heq]
      · simp [ih, or_left_comm]

theorem mem_sortDedup (a : Str) (l : List Str) : a ∈ sortDedup l ↔ a ∈ l := by
  induction l with
  | nil => simp [sortDedup]
  | cons x xs ih => rw [List.mem_cons, ← ih]; exact mem_insertDedup a x _

theorem insertDedup_sorted (x : Str) (l : List Str) (h : l.Pairwise (· < ·)) : (insertDedup x l).Pairwise (· < ·) := by
  induction l with
  | nil => simp [insertDedup]
  | cons y ys ih =>
    obtain ⟨hy, hys⟩ := List.pairwise_cons.mp h
    simp only [insertDedup]
    split
    · next hlt =>
      exact List.pairwise_cons.mpr ⟨List.forall_mem_cons.mpr ⟨hlt, fun z hz => Std.lt_trans hlt (hy z hz)⟩, h⟩
    · next hge =>
      split
      · exact h
      · next hne =>
        refine List.pairwise_cons.mpr ⟨fun z hz => ?_, ih hys⟩
        rcases (mem_insertDedup z x ys).mp hz with rfl | hz
        · exact Std.lt_of_le_of_ne (Std.not_lt.mp hge) (Ne.symm hne)
        · exact hy z hz

theorem sortDedup_sorted (l : List Str) : (sortDedup l).Pairwise (· < ·) := by
  induction l with
  | nil => exact .nil
  | cons x xs ih => exact insertDedup_sorted x _ ih

/-- sets.String.List(): strictly increasing, same members — hence independent of insertion order and multiplicity -/
theorem sortDedup_eq_of_same_members (l l' : List Str) (h : ∀ a, a ∈ l ↔ a ∈ l') : sortDedup l = sortDedup l' := by
  have nd (m : List Str) : (sortDedup m).Nodup := (sortDedup_sorted m).imp Std.ne_of_lt
  refine List.Perm.eq_of_pairwise (le := (· ≤ ·)) (fun _ _ _ _ => Std.le_antisymm)
    ((sortDedup_sorted l).imp Std.le_of_lt) ((sortDedup_sorted l').imp Std.le_of_lt) ?_
  rw [List.perm_ext_iff_of_nodup (nd l) (nd l')]
  intro a; rw [mem_sortDedup, mem_sortDedup]; exact h a

theorem sortDedup_eq_of_perm (l l' : List Str) (h : l.Perm l') : sortDedup l = sortDedup l' :=
  sortDedup_eq_of_same_members l l' (fun _ => h.mem_iff)

end PSA
