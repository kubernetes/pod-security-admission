import Psa.Admit
/-! Path characterisation of ValidatePod / ValidatePodController: the response is exactly one of a few shapes, each
    with the fact that selects it. A theorem about every request takes cases on these; a theorem whose hypotheses name
    the path evaluates the function along it (`simp only [validatePod, …]` with those hypotheses). -/
namespace PSA

inductive PodOutcome (pv : Str → Ver × Bool) (cfg : Config) (w : World Ev) (r : Request) : Resp × Eff → Prop
  | ignored (h : ignoredSubresources.contains r.sub = true) : PodOutcome pv cfg w r (allowPlain, {})
  | exemptNs (h : exempt r.ns cfg.exNamespaces = true) :
      PodOutcome pv cfg w r ({ allowed := true, annExempt := some b!"namespace" }, { metrics := [.exemption] })
  | exemptUser (h : exempt r.user cfg.exUsers = true) :
      PodOutcome pv cfg w r ({ allowed := true, annExempt := some b!"user" }, { metrics := [.exemption] })
  | nsErr (e : Unit) (h : w.getNs = .error e) : PodOutcome pv cfg w r (errResp 500, { metrics := [.error true] })
  | fullyPrivileged (labels : Labels) (hns : w.getNs = .ok labels)
      (h : ((policyToEvaluate pv labels cfg.defaults).2.isEmpty && (policyToEvaluate pv labels cfg.defaults).1.fullyPrivileged) = true) :
      PodOutcome pv cfg w r ({ allowed := true, annEnforce := some ⟨.privileged, .latest⟩ },
        { metrics := [.eval true (policyToEvaluate pv labels cfg.defaults).1.enforce 0] })
  | badObject (h : ∀ p, r.obj ≠ .ok (.pod p)) : PodOutcome pv cfg w r (errResp 400, { metrics := [.error true] })
  | badOldObject (p : PodObj) (hobj : r.obj = .ok (.pod p)) (hop : r.op = .update) (h : ∀ q, r.old ≠ .ok (.pod q)) :
      PodOutcome pv cfg w r (errResp 400, { metrics := [.error true] })
  | insignificant (labels : Labels) (hns : w.getNs = .ok labels) (p : PodObj) (hobj : r.obj = .ok (.pod p)) (hop : r.op = .update)
      (q : PodObj) (hold : r.old = .ok (.pod q)) (h : isSignificant p.pod q.pod = false) :
      PodOutcome pv cfg w r (allowPlain, {})
  | evaluated (labels : Labels) (hns : w.getNs = .ok labels) (p : PodObj) (hobj : r.obj = .ok (.pod p))
      (h : r.op ≠ .update ∨ ∃ q, r.old = .ok (.pod q) ∧ isSignificant p.pod q.pod = true) :
      PodOutcome pv cfg w r (evaluateObj w.ev cfg (policyToEvaluate pv labels cfg.defaults).1
        (!(policyToEvaluate pv labels cfg.defaults).2.isEmpty) p true)

theorem validatePod_outcome (pv : Str → Ver × Bool) (cfg : Config) (w : World Ev) (r : Request) :
    PodOutcome pv cfg w r (validatePod pv cfg w r) := by
  unfold validatePod
  cases h0 : ignoredSubresources.contains r.sub
  case true => exact .ignored h0
  cases h1 : exempt r.ns cfg.exNamespaces
  case true => exact .exemptNs h1
  cases h2 : exempt r.user cfg.exUsers
  case true => exact .exemptUser h2
  cases h3 : w.getNs with
  | error e => exact .nsErr e h3
  | ok labels =>
    simp only [Bool.false_eq_true, ↓reduceIte]
    cases h4 : ((policyToEvaluate pv labels cfg.defaults).2.isEmpty && (policyToEvaluate pv labels cfg.defaults).1.fullyPrivileged)
    case true => exact .fullyPrivileged labels h3 h4
    cases h5 : r.obj with
    | error e => exact .badObject (by simp [h5])
    | ok o =>
      cases o with
      | pod p =>
        by_cases h6 : r.op = .update
        · simp only [Bool.false_eq_true, ↓reduceIte, h6]
          cases h7 : r.old with
          | error e => exact .badOldObject p h5 h6 (by simp [h7])
          | ok o' =>
            cases o' with
            | pod q =>
              simp only
              cases h8 : isSignificant p.pod q.pod
              · exact .insignificant labels h3 p h5 h6 q h7 h8
              · exact .evaluated labels h3 p h5 (.inr ⟨q, h7, h8⟩)
            | _ => exact .badOldObject p h5 h6 (by simp [h7])
        · simp only [Bool.false_eq_true, ↓reduceIte, h6]
          exact .evaluated labels h3 p h5 (.inl h6)
      | _ => exact .badObject (by simp [h5])

inductive CtlOutcome (pv : Str → Ver × Bool) (cfg : Config) (w : World Ev) (r : Request) : Resp × Eff → Prop
  | subresource (h : r.sub ≠ []) : CtlOutcome pv cfg w r (allowPlain, {})
  | exemptNs (h : exempt r.ns cfg.exNamespaces = true) :
      CtlOutcome pv cfg w r ({ allowed := true, annExempt := some b!"namespace" }, { metrics := [.exemption] })
  | exemptUser (h : exempt r.user cfg.exUsers = true) :
      CtlOutcome pv cfg w r ({ allowed := true, annExempt := some b!"user" }, { metrics := [.exemption] })
  | nsErr (e : Unit) (h : w.getNs = .error e) : CtlOutcome pv cfg w r (allowWithError, { metrics := [.error true] })
  | quiet (labels : Labels) (hns : w.getNs = .ok labels)
      (h : ((policyToEvaluate pv labels cfg.defaults).2.isEmpty && (policyToEvaluate pv labels cfg.defaults).1.warn.level == .privileged &&
            (policyToEvaluate pv labels cfg.defaults).1.audit.level == .privileged) = true) :
      CtlOutcome pv cfg w r (allowPlain, {})
  | badObject (h : (∀ p, r.obj ≠ .ok (.pod p)) ∧ (∀ t, r.obj ≠ .ok (.controller t))) :
      CtlOutcome pv cfg w r (allowWithError, { metrics := [.error true] })
  | noTemplate (h : r.obj = .ok (.controller none)) : CtlOutcome pv cfg w r (allowPlain, {})
  | evaluated (labels : Labels) (hns : w.getNs = .ok labels) (p : PodObj)
      (h : r.obj = .ok (.pod p) ∨ r.obj = .ok (.controller (some p))) :
      CtlOutcome pv cfg w r (evaluateObj w.ev cfg (policyToEvaluate pv labels cfg.defaults).1
        (!(policyToEvaluate pv labels cfg.defaults).2.isEmpty) p false)

theorem validateController_outcome (pv : Str → Ver × Bool) (cfg : Config) (w : World Ev) (r : Request) :
    CtlOutcome pv cfg w r (validateController pv cfg w r) := by
  unfold validateController
  by_cases h0 : r.sub = []
  case neg => rw [if_pos h0]; exact .subresource h0
  rw [if_neg (not_not_intro h0)]
  cases h1 : exempt r.ns cfg.exNamespaces
  case true => exact .exemptNs h1
  cases h2 : exempt r.user cfg.exUsers
  case true => exact .exemptUser h2
  cases h3 : w.getNs with
  | error e => exact .nsErr e h3
  | ok labels =>
    simp only [Bool.false_eq_true, ↓reduceIte]
    cases h4 : ((policyToEvaluate pv labels cfg.defaults).2.isEmpty && (policyToEvaluate pv labels cfg.defaults).1.warn.level == .privileged &&
            (policyToEvaluate pv labels cfg.defaults).1.audit.level == .privileged)
    case true => exact .quiet labels h3 h4
    cases h5 : r.obj with
    | error e => exact .badObject (by simp [h5])
    | ok o =>
      cases o with
      | pod p => exact .evaluated labels h3 p (.inl h5)
      | controller t =>
        cases t with
        | some p => exact .evaluated labels h3 p (.inr h5)
        | none => exact .noTemplate h5
      | _ => exact .badObject (by simp [h5])

end PSA
