import Psa.Generated.Facts
/-! Hand-written expectations for the structural facts that factx regenerates from /repo on every run.
    A fact outside these expectations breaks an obligation in Props/* (it is never silently accepted). -/
namespace PSA.Expected
open PSA

/-- F4: the API fields each revision may read — exactly the fields the model pod carries for that control (plus the
    traversal fields and `Container.Name`, used for messages and, in the seccomp-annotation revision, for the key) -/
def readSets : List ((Str × Nat) × List Str) :=
  [
    ((b!"allowPrivilegeEscalation", 8), [b!"Container.Name", b!"Container.SecurityContext", b!"EphemeralContainer.EphemeralContainerCommon", b!"PodSpec.Containers", b!"PodSpec.EphemeralContainers", b!"PodSpec.InitContainers", b!"SecurityContext.AllowPrivilegeEscalation"]),
    ((b!"allowPrivilegeEscalation", 25), [b!"Container.Name", b!"Container.SecurityContext", b!"EphemeralContainer.EphemeralContainerCommon", b!"PodOS.Name", b!"PodSpec.Containers", b!"PodSpec.EphemeralContainers", b!"PodSpec.InitContainers", b!"PodSpec.OS", b!"SecurityContext.AllowPrivilegeEscalation"]),
    ((b!"appArmorProfile", 0), [b!"AppArmorProfile.Type", b!"Container.Name", b!"Container.SecurityContext", b!"EphemeralContainer.EphemeralContainerCommon", b!"ObjectMeta.Annotations", b!"PodSecurityContext.AppArmorProfile", b!"PodSpec.Containers", b!"PodSpec.EphemeralContainers", b!"PodSpec.InitContainers", b!"PodSpec.SecurityContext", b!"SecurityContext.AppArmorProfile"]),
    ((b!"capabilities_baseline", 0), [b!"Capabilities.Add", b!"Container.Name", b!"Container.SecurityContext", b!"EphemeralContainer.EphemeralContainerCommon", b!"PodSpec.Containers", b!"PodSpec.EphemeralContainers", b!"PodSpec.InitContainers", b!"SecurityContext.Capabilities"]),
    ((b!"capabilities_restricted", 22), [b!"Capabilities.Add", b!"Capabilities.Drop", b!"Container.Name", b!"Container.SecurityContext", b!"EphemeralContainer.EphemeralContainerCommon", b!"PodSpec.Containers", b!"PodSpec.EphemeralContainers", b!"PodSpec.InitContainers", b!"SecurityContext.Capabilities"]),
    ((b!"capabilities_restricted", 25), [b!"Capabilities.Add", b!"Capabilities.Drop", b!"Container.Name", b!"Container.SecurityContext", b!"EphemeralContainer.EphemeralContainerCommon", b!"PodOS.Name", b!"PodSpec.Containers", b!"PodSpec.EphemeralContainers", b!"PodSpec.InitContainers", b!"PodSpec.OS", b!"SecurityContext.Capabilities"]),
    ((b!"hostNamespaces", 0), [b!"PodSpec.HostIPC", b!"PodSpec.HostNetwork", b!"PodSpec.HostPID"]),
    ((b!"hostPathVolumes", 0), [b!"PodSpec.Volumes", b!"Volume.Name", b!"Volume.VolumeSource", b!"VolumeSource.HostPath"]),
    ((b!"hostPorts", 0), [b!"Container.Name", b!"Container.Ports", b!"ContainerPort.HostPort", b!"EphemeralContainer.EphemeralContainerCommon", b!"PodSpec.Containers", b!"PodSpec.EphemeralContainers", b!"PodSpec.InitContainers"]),
    ((b!"privileged", 0), [b!"Container.Name", b!"Container.SecurityContext", b!"EphemeralContainer.EphemeralContainerCommon", b!"PodSpec.Containers", b!"PodSpec.EphemeralContainers", b!"PodSpec.InitContainers", b!"SecurityContext.Privileged"]),
    ((b!"procMount", 0), [b!"Container.Name", b!"Container.SecurityContext", b!"EphemeralContainer.EphemeralContainerCommon", b!"PodSpec.Containers", b!"PodSpec.EphemeralContainers", b!"PodSpec.HostUsers", b!"PodSpec.InitContainers", b!"SecurityContext.ProcMount"]),
    ((b!"restrictedVolumes", 0), [b!"PodSpec.Volumes", b!"Volume.Name", b!"Volume.VolumeSource", b!"VolumeSource.AWSElasticBlockStore", b!"VolumeSource.AzureDisk", b!"VolumeSource.AzureFile", b!"VolumeSource.CSI", b!"VolumeSource.CephFS", b!"VolumeSource.Cinder", b!"VolumeSource.ConfigMap", b!"VolumeSource.DownwardAPI", b!"VolumeSource.EmptyDir", b!"VolumeSource.Ephemeral", b!"VolumeSource.FC", b!"VolumeSource.FlexVolume", b!"VolumeSource.Flocker", b!"VolumeSource.GCEPersistentDisk", b!"VolumeSource.GitRepo", b!"VolumeSource.Glusterfs", b!"VolumeSource.HostPath", b!"VolumeSource.ISCSI", b!"VolumeSource.NFS", b!"VolumeSource.PersistentVolumeClaim", b!"VolumeSource.PhotonPersistentDisk", b!"VolumeSource.PortworxVolume", b!"VolumeSource.Projected", b!"VolumeSource.Quobyte", b!"VolumeSource.RBD", b!"VolumeSource.ScaleIO", b!"VolumeSource.Secret", b!"VolumeSource.StorageOS", b!"VolumeSource.VsphereVolume"]),
    ((b!"runAsNonRoot", 0), [b!"Container.Name", b!"Container.SecurityContext", b!"EphemeralContainer.EphemeralContainerCommon", b!"PodSecurityContext.RunAsNonRoot", b!"PodSpec.Containers", b!"PodSpec.EphemeralContainers", b!"PodSpec.HostUsers", b!"PodSpec.InitContainers", b!"PodSpec.SecurityContext", b!"SecurityContext.RunAsNonRoot"]),
    ((b!"runAsUser", 23), [b!"Container.Name", b!"Container.SecurityContext", b!"EphemeralContainer.EphemeralContainerCommon", b!"PodSecurityContext.RunAsUser", b!"PodSpec.Containers", b!"PodSpec.EphemeralContainers", b!"PodSpec.HostUsers", b!"PodSpec.InitContainers", b!"PodSpec.SecurityContext", b!"SecurityContext.RunAsUser"]),
    ((b!"seLinuxOptions", 0), [b!"Container.Name", b!"Container.SecurityContext", b!"EphemeralContainer.EphemeralContainerCommon", b!"PodSecurityContext.SELinuxOptions", b!"PodSpec.Containers", b!"PodSpec.EphemeralContainers", b!"PodSpec.InitContainers", b!"PodSpec.SecurityContext", b!"SELinuxOptions.Role", b!"SELinuxOptions.Type", b!"SELinuxOptions.User", b!"SecurityContext.SELinuxOptions"]),
    ((b!"seLinuxOptions", 31), [b!"Container.Name", b!"Container.SecurityContext", b!"EphemeralContainer.EphemeralContainerCommon", b!"PodSecurityContext.SELinuxOptions", b!"PodSpec.Containers", b!"PodSpec.EphemeralContainers", b!"PodSpec.InitContainers", b!"PodSpec.SecurityContext", b!"SELinuxOptions.Role", b!"SELinuxOptions.Type", b!"SELinuxOptions.User", b!"SecurityContext.SELinuxOptions"]),
    ((b!"seccompProfile_baseline", 0), [b!"Container.Name", b!"EphemeralContainer.EphemeralContainerCommon", b!"ObjectMeta.Annotations", b!"PodSpec.Containers", b!"PodSpec.EphemeralContainers", b!"PodSpec.InitContainers"]),
    ((b!"seccompProfile_baseline", 19), [b!"Container.Name", b!"Container.SecurityContext", b!"EphemeralContainer.EphemeralContainerCommon", b!"PodSecurityContext.SeccompProfile", b!"PodSpec.Containers", b!"PodSpec.EphemeralContainers", b!"PodSpec.InitContainers", b!"PodSpec.SecurityContext", b!"SeccompProfile.Type", b!"SecurityContext.SeccompProfile"]),
    ((b!"seccompProfile_restricted", 19), [b!"Container.Name", b!"Container.SecurityContext", b!"EphemeralContainer.EphemeralContainerCommon", b!"PodSecurityContext.SeccompProfile", b!"PodSpec.Containers", b!"PodSpec.EphemeralContainers", b!"PodSpec.InitContainers", b!"PodSpec.SecurityContext", b!"SeccompProfile.Type", b!"SecurityContext.SeccompProfile"]),
    ((b!"seccompProfile_restricted", 25), [b!"Container.Name", b!"Container.SecurityContext", b!"EphemeralContainer.EphemeralContainerCommon", b!"PodOS.Name", b!"PodSecurityContext.SeccompProfile", b!"PodSpec.Containers", b!"PodSpec.EphemeralContainers", b!"PodSpec.InitContainers", b!"PodSpec.OS", b!"PodSpec.SecurityContext", b!"SeccompProfile.Type", b!"SecurityContext.SeccompProfile"]),
    ((b!"sysctls", 0), [b!"PodSecurityContext.Sysctls", b!"PodSpec.SecurityContext", b!"Sysctl.Name"]),
    ((b!"sysctls", 27), [b!"PodSecurityContext.Sysctls", b!"PodSpec.SecurityContext", b!"Sysctl.Name"]),
    ((b!"sysctls", 29), [b!"PodSecurityContext.Sysctls", b!"PodSpec.SecurityContext", b!"Sysctl.Name"]),
    ((b!"sysctls", 32), [b!"PodSecurityContext.Sysctls", b!"PodSpec.SecurityContext", b!"Sysctl.Name"]),
    ((b!"windowsHostProcess", 0), [b!"Container.Name", b!"Container.SecurityContext", b!"EphemeralContainer.EphemeralContainerCommon", b!"PodSecurityContext.WindowsOptions", b!"PodSpec.Containers", b!"PodSpec.EphemeralContainers", b!"PodSpec.InitContainers", b!"PodSpec.SecurityContext", b!"SecurityContext.WindowsOptions", b!"WindowsSecurityContextOptions.HostProcess"])
  ]

def subsetOf (a b : List Str) : Bool := a.all (b.contains ·)

/-- every generated read-set is within the expected one for the same (check id, minimum version) -/
def readsWithin (gen exp : List ((Str × Nat) × List Str)) : Bool :=
  gen.all (fun g => match exp.find? (fun e => e.1 = g.1) with
    | some e => subsetOf g.2 e.2
    | none => false)

/-- which revisions read PodSpec.HostUsers (C19): exactly the three waived controls -/
def readsHostUsers (gen : List ((Str × Nat) × List Str)) : List Str :=
  (gen.filter (fun g => g.2.contains b!"PodSpec.HostUsers")).map (·.1.1)

/-- F6: acceptable origins of a pointer through which an AdmissionResponse field is stored: a fresh allocation or the
    result of one of the constructors (possibly merged by a phi) -/
def freshOrigins : List Str :=
  [b!"fresh:alloc", b!"call:allowedResponse", b!"call:forbiddenResponse", b!"call:invalidResponse", b!"call:errorResponse",
   b!"phi{call:allowedResponse,call:forbiddenResponse}", b!"phi{call:allowedResponse,phi{call:allowedResponse,call:forbiddenResponse}}"]

/-- stores to the shared responses are allowed only in the package initialiser -/
def responseStoreOK (s : Str × Str × Str × Str) : Bool :=
  freshOrigins.contains s.2.2.2 || (b!"init".isPrefixOf s.2.1 && b!"shared:".isPrefixOf s.2.2.2)

/-- F8: the only stores to package-level variables outside `init` functions: check registration, called from init -/
def globalStores : List (Str × Str × Str) :=
  [(b!"policy", b!"addCheck", b!"defaultChecks"), (b!"policy", b!"addCheck", b!"experimentalChecks")]

/-- F9: the only writes, outside init, to state that outlives a request: `CompleteConfiguration` filling in defaults of the
    controller before it serves, and the administrator's setter of the user-namespace switch (an atomic.Bool) -/
def stateWrites : List (Str × Str × Str) :=
  [(b!"admission", b!"admission.Admission).CompleteConfiguration", b!"store through receiver"),
   (b!"policy", b!"policy.RelaxPolicyForUserNamespacePods", b!"call atomic.Bool).Store on shared:relaxPolicyForUserNamespacePods")]

def podSpecResources : List Str :=
  [b!"corev1/pods", b!"corev1/replicationcontrollers", b!"corev1/podtemplates", b!"appsv1/replicasets", b!"appsv1/deployments",
   b!"appsv1/statefulsets", b!"appsv1/daemonsets", b!"batchv1/jobs", b!"batchv1/cronjobs"]

end PSA.Expected
