import Psa.Render
import Psa.Shipped
/-! The shipped evaluator as the driver runs it: registry resolution (the loop-level model of `populate`),
    then every selected revision on the pod, rendered. -/
namespace PSA

def evalPodModel (T : Tables) (relax : Bool) (lv : LevelVersion) (p : Pod) : List CheckResult :=
  ((populate shipped).evaluate lv.level lv.version).map (fun r => runRev T relax r p)

/-- the same before rendering: the structured result of every selected revision, which C02 / C03 are stated on -/
def evalShipped (T : Tables) (relax : Bool) (l : Level) (v : Ver) (p : Pod) : List CheckOut :=
  ((populate shipped).evaluate l v).map (fun r => run T relax r p)

def allowedAll (rs : List CheckOut) : Bool := rs.all (·.allowed)

/-- nothing runs at privileged -/
theorem evalPodModel_privileged (T : Tables) (relax : Bool) (v : Ver) (p : Pod) :
    evalPodModel T relax ⟨.privileged, v⟩ p = [] := rfl

theorem C03_privileged (T : Tables) (r : Bool) (v : Ver) (p : Pod) : evalShipped T r .privileged v p = [] := rfl

theorem render_allowed (k : Kind) (o : CheckOut) : (render k o).allowed = o.allowed := by
  unfold render; split <;> simp_all

/-! ### the administrator's switch (`policy.RelaxPolicyForUserNamespacePods`): an atomic.Bool whose setter stores its argument -/

/-- the switch after a sequence of setter calls, starting from `init` (the process starts with `false`) -/
def switchAfter (init : Bool) (calls : List Bool) : Bool := calls.foldl (fun _ b => b) init

theorem switchAfter_append (init : Bool) (calls : List Bool) (b : Bool) : switchAfter init (calls ++ [b]) = b := by
  simp [switchAfter]

theorem switchAfter_last (init : Bool) (calls : List Bool) : switchAfter init calls = calls.getLast?.getD init := by
  rcases List.eq_nil_or_concat calls with rfl | ⟨l, b, rfl⟩
  · rfl
  · simp [switchAfter]

end PSA
