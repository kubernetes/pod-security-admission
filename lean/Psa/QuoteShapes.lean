import Psa.QuoteProofs
import Psa.SortProofs
namespace PSA

/-- a part of a text that closes every quote it opens -/
def Balanced (p : Str) : Prop := ∀ r, quotedSegs (p ++ r) = quotedSegs p ++ quotedSegs r

namespace Segs

-- the two literals of the details that quote a fixed word, taken apart at their quote bytes
theorem dropAll : Segs (b!" must set securityContext.capabilities.drop=[" ++ PSA.quoted b!"ALL" ++ b!"]") [b!"ALL"] :=
  ((lit (by decide)).append (quoted (by decide))).append (lit (by decide))

theorem seccompTypes : Segs (b!" must set securityContext.seccompProfile.type to " ++ PSA.quoted b!"RuntimeDefault" ++ b!" or " ++
    PSA.quoted b!"Localhost") [b!"RuntimeDefault", b!"Localhost"] :=
  (((lit (by decide)).append (quoted (by decide))).append (lit (by decide))).append (quoted (by decide))

end Segs

theorem sa_join_balanced (sep : Str) (hs : noQ sep) (parts : List Str) (rest : Str) (h : ∀ p ∈ parts, Balanced p) :
    segsAux false [] (Str.join sep parts ++ rest) = parts.flatMap quotedSegs ++ segsAux false [] rest := by
  have := Segs.join (g := id) hs h rest
  rwa [List.map_id] at this

theorem segs_lit_joinQuote (p : Str) (l : List Str) (r : Str) (hp : noQ p) (hl : ∀ x ∈ l, noQ x) :
    quotedSegs (p ++ joinQuote l ++ r) = l ++ quotedSegs r :=
  (Segs.lit hp).append (.joinQuote hl) r

theorem segs_seccompTypes :
    quotedSegs b!" must set securityContext.seccompProfile.type to \"RuntimeDefault\" or \"Localhost\"" =
      [b!"RuntimeDefault", b!"Localhost"] := Segs.seccompTypes.eq

structure Clean (o : CheckOut) : Prop where
  cs : ∀ x ∈ o.containers, noQ x
  cs2 : ∀ x ∈ o.containers2, noQ x
  vols : ∀ x ∈ o.volumes, noQ x
  vals : ∀ x ∈ o.values, noQ x
  flags : ∀ x ∈ o.flags, noQ x
  extra : ∀ x ∈ o.extra, noQ x

theorem Clean.sd {o : CheckOut} (h : Clean o) : ∀ x ∈ sortDedup o.values, noQ x :=
  fun x hx => h.vals x ((mem_sortDedup x o.values).mp hx)

theorem Clean.sf {o : CheckOut} (h : Clean o) : ∀ x ∈ sortStrs o.flags, noQ x :=
  fun x hx => h.flags x ((sortStrs_perm o.flags).mem_iff.mp hx)

/-- the values a detail shape writes between quotes besides the names of objects -/
def Kind.quotedValues (k : Kind) (o : CheckOut) : List Str :=
  match k with
  | .capsBaseline | .procMount | .seccompField | .seLinux | .restrictedVolumes => sortDedup o.values
  | .appArmor => sortDedup o.values ++ sortStrs o.flags
  | .capsRestricted => b!"ALL" :: sortDedup o.values
  | .seccompRestricted => sortDedup o.values ++ [b!"RuntimeDefault", b!"Localhost"]
  | _ => []


/-- **Every detail shape quotes only offenders and values**: each proof term follows its shape in `Kind.detail` piece by piece
    and thereby computes the list `l` of quoted strings; what is left is that `l` lies within `named` and `quotedValues`. -/
theorem detail_segs (k : Kind) (o : CheckOut) (h : Clean o) :
    ∃ l, Segs (k.detail o) l ∧ ∀ s ∈ l, s ∈ k.named o ∨ s ∈ k.quotedValues o := by
  cases k <;> simp only [Kind.detail, Kind.named, Kind.quotedValues]
  case privileged | allowPrivEsc => exact ⟨_, Segs.ctrs h.cs |>.append (.lit (by decide)), by simp⟩
  case hostNamespaces | sysctls => exact ⟨_, .lit (noQ_join _ _ (by decide) h.flags), by simp⟩
  case hostPorts =>
    exact ⟨_, Segs.ctrs h.cs |>.append (.lit (by decide)) |>.append (.pluralize (by decide) (by decide))
      |>.append (.lit (by decide)) |>.append (.pluralize (by decide) (by decide)) |>.append (.lit (by decide))
      |>.append (.lit (noQ_join _ _ (by decide) h.sd)), by simp⟩
  case hostPath =>
    exact ⟨_, Segs.pluralize (by decide) (by decide) |>.append (.lit (by decide)) |>.append (.joinQuote h.vols), by simp⟩
  case capsBaseline =>
    exact ⟨_, Segs.ctrs h.cs |>.append (.lit (by decide)) |>.append (.joinQuote h.sd) |>.append (.lit (by decide)), by simp⟩
  case procMount => exact ⟨_, Segs.ctrs h.cs |>.append (.lit (by decide)) |>.append (.joinQuote h.sd), by simp⟩
  case seccompAnn =>
    exact ⟨_, Segs.lit (by decide) |>.append (.pluralize (by decide) (by decide)) |>.append (.lit (by decide))
      |>.append (.lit (noQ_join _ _ (by decide) h.sd)), by simp⟩
  case seccompField =>
    exact ⟨_, Segs.setters h.cs |>.append (.lit (by decide)) |>.append (.joinQuote h.sd), by simp⟩
  case hostProcess | runAsUser => exact ⟨_, Segs.setters h.cs |>.append (.lit (by decide)), by simp⟩
  case restrictedVolumes =>
    exact ⟨_, Segs.pluralize (by decide) (by decide) |>.append (.lit (by decide)) |>.append (.joinQuote h.vols)
      |>.append (.lit (by decide)) |>.append (.pluralize (by decide) (by decide)) |>.append (.lit (by decide))
      |>.append (.pluralize (by decide) (by decide)) |>.append (.lit (by decide)) |>.append (.joinQuote h.sd), by simp⟩
  case appArmor =>
    exact ⟨_, .append (.append
        (.join_append (by decide) (.setters h.cs) (.join_ite _ .nil (.pluralize (by decide) (by decide))))
        (.lit (by decide))) (.joinQuote (List.forall_mem_append.mpr ⟨h.sd, h.sf⟩)), by simp⟩
  case seLinux =>
    exact ⟨_, Segs.setters h.cs |>.append (.lit (by decide)) |>.append
      (.join_append (by decide)
        (.join_ite _ .nil (Segs.pluralize (by decide) (by decide) |>.append (.lit (by decide)) |>.append (.joinQuote h.sd)))
        (.lit (noQ_join _ _ (by decide) h.extra))), by simp +contextual [or_imp]⟩
  case capsRestricted =>
    exact ⟨_, .join_append (by decide)
      (.join_ite _ .nil (Segs.ctrs h.cs |>.append .dropAll))
      (.join_ite _ .nil (Segs.ctrs h.cs2 |>.append (.lit (by decide)) |>.append (.joinQuote h.sd) |>.append (.lit (by decide)))),
      by simp +contextual [or_imp]⟩
  case runAsNonRoot =>
    split
    · exact ⟨_, Segs.setters h.cs |>.append (.lit (by decide)), by simp⟩
    · exact ⟨_, Segs.lit (by decide) |>.append (.ctrs h.cs2) |>.append (.lit (by decide)), by simp⟩
  case seccompRestricted =>
    split
    · exact ⟨_, Segs.setters h.cs |>.append (.lit (by decide)) |>.append (.joinQuote h.sd), by simp +contextual [or_imp]⟩
    · exact ⟨_, Segs.lit (by decide) |>.append (.ctrs h.cs2) |>.append .seccompTypes, by simp +contextual [or_imp]⟩

end PSA
