import Psa.RegistryProofs
/-! `validateChecks` accepts exactly the well-formed check sets (on the domain where every registered revision version is
    `latest`, unset, or `v1.N` — the only values `api.MajorMinorVersion(1, _)`, `api.LatestVersion()` and the zero value give). -/
namespace PSA

variable {α : Type}

/-- the domain of one revision: no major version other than 1 -/
def Ver.OneMajor (v : Ver) : Prop := v = .latest ∨ v = .unset ∨ ∃ n, v = .mm 1 n

/-- the domain: no revision with a major version other than 1 -/
def OneMajorDomain (cs : List (Check α)) : Prop := ∀ c ∈ cs, ∀ r ∈ c.revs, r.min.OneMajor

theorem Ver.minor_mm (a b : Nat) : (Ver.mm a b).minor = b := rfl

/-- the per-check revision loop started after `a.p` with `a ≤ 1` (the zero value, or a `v1.p` revision): accepted iff
    every version is a `v1.N`, they increase strictly, and they lie above `p` when `a = 1` -/
theorem revsOk_iff (revs : List (Rev α)) (a p : Nat) (ha : a ≤ 1) (hd : ∀ r ∈ revs, r.min.OneMajor) :
    validateChecks.revsOk (.mm a p) revs = true ↔
      (∀ r ∈ revs, r.min = .mm 1 r.min.minor) ∧ revs.Pairwise (fun r r' => r.min.minor < r'.min.minor) ∧
      (∀ r ∈ revs, a = 1 → p < r.min.minor) := by
  induction revs generalizing a p with
  | nil => simp [validateChecks.revsOk]
  | cons r rs ih =>
    have hdrs : ∀ x ∈ rs, x.min.OneMajor := fun x hx => hd x (by simp [hx])
    obtain ⟨m, f, o⟩ := r
    rcases hd _ (List.mem_cons_self ..) with hl | hu | ⟨n, hn⟩
    -- `latest` and the zero value are refused, and are no `v1.N`
    · simp only at hl; subst hl
      exact iff_of_false (by simp [validateChecks.revsOk]) fun h => nomatch h.1 _ (List.mem_cons_self ..)
    · simp only at hu; subst hu
      exact iff_of_false (by simp [validateChecks.revsOk]) fun h => nomatch h.1 _ (List.mem_cons_self ..)
    · simp only at hn; subst hn
      have head : (Ver.mm 1 n != .unset && Ver.mm 1 n != .latest && Ver.mm a p != .mm 1 n &&
          (Ver.mm a p).older (.mm 1 n)) = true ↔ (a = 1 → p < n) := by
        rcases Nat.le_one_iff_eq_zero_or_eq_one.mp ha with rfl | rfl <;> simp [Ver.older, Ver.unset]
        omega
      rw [validateChecks.revsOk, Bool.and_eq_true, head, ih 1 n (Nat.le_refl 1) hdrs]
      simp only [List.mem_cons, forall_eq_or_imp, List.pairwise_cons, Ver.minor_mm, true_and, forall_const]
      constructor
      · rintro ⟨hpn, h1, h2, h3⟩
        exact ⟨h1, ⟨h3, h2⟩, hpn, fun x hx e => Nat.lt_trans (hpn e) (h3 x hx)⟩
      · rintro ⟨h1, ⟨h3, h2⟩, hpn, _⟩
        exact ⟨hpn, h1, h2, h3⟩

theorem revsOk_unset_iff (revs : List (Rev α)) (hd : ∀ r ∈ revs, r.min.OneMajor) :
    validateChecks.revsOk .unset revs = true ↔
      (∀ r ∈ revs, r.min = .mm 1 r.min.minor) ∧ revs.Pairwise (fun r r' => r.min.minor < r'.min.minor) := by
  simpa [Ver.unset] using revsOk_iff revs 0 0 (Nat.zero_le 1) hd

/-- the first pass: ids distinct (and not already seen), level baseline or restricted, revisions non-empty and increasing -/
theorem pass1_iff (cs : List (Check α)) (seen : List Str) (hd : OneMajorDomain cs) :
    validateChecks.pass1 seen cs = true ↔
      ((cs.map (·.id)).Nodup ∧ ∀ c ∈ cs, c.id ∉ seen) ∧
      (∀ c ∈ cs, c.level = .baseline ∨ c.level = .restricted) ∧ (∀ c ∈ cs, c.revs ≠ []) ∧
      (∀ c ∈ cs, ∀ r ∈ c.revs, r.min = .mm 1 r.min.minor) ∧
      (∀ c ∈ cs, c.revs.Pairwise (fun r r' => r.min.minor < r'.min.minor)) := by
  induction cs generalizing seen with
  | nil => simp [validateChecks.pass1]
  | cons c rest ih =>
    have hdc : ∀ r ∈ c.revs, r.min = .latest ∨ r.min = .unset ∨ ∃ n, r.min = .mm 1 n := hd c (by simp)
    have hdr : OneMajorDomain rest := fun x hx => hd x (by simp [hx])
    simp only [validateChecks.pass1, Bool.and_eq_true, Bool.not_eq_eq_eq_not, Bool.not_true, List.contains_eq_mem,
      decide_eq_false_iff_not, Bool.or_eq_true, beq_iff_eq, List.isEmpty_eq_false_iff, revsOk_unset_iff c.revs hdc, ih (c.id :: seen) hdr,
      List.map_cons, List.nodup_cons, List.mem_cons, forall_eq_or_imp, List.mem_map, not_exists, not_and, not_or, forall_and]
    -- the same conjuncts on both sides, in another order
    rw [iff_iff_eq]
    ac_rfl

end PSA
