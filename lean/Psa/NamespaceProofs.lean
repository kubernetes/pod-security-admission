import Psa.Namespace
/-! Lemmas about prioritizePods, and the characterisation of ValidateNamespace: what it decides from the request alone. -/
namespace PSA

/-- invariant of the prioritisation fold: kept ++ siblings is a permutation of the non-exempt pods seen so far -/
theorem prioStep_perm (exRC : List Str) (st : List PodObj × List PodObj × List Str) (p : PodObj) (seen : List PodObj)
    (h : (st.1 ++ st.2.1).Perm (seen.filter (fun p => !exemptRC p.runtimeClass exRC))) :
    ((prioStep exRC st p).1 ++ (prioStep exRC st p).2.1).Perm ((seen ++ [p]).filter (fun p => !exemptRC p.runtimeClass exRC)) := by
  unfold prioStep
  rw [List.filter_append]
  cases hex : exemptRC p.runtimeClass exRC
  · -- a pod that is not exempt joins the kept pods or the siblings: either way it is inserted into `st.1 ++ st.2.1`
    have key : ∀ l : List PodObj, l.Perm (p :: (st.1 ++ st.2.1)) →
        l.Perm (seen.filter (fun p => !exemptRC p.runtimeClass exRC) ++ [p]) :=
      fun l hl => hl.trans ((h.cons p).trans (List.perm_append_singleton _ _).symm)
    have kept : (st.1 ++ [p] ++ st.2.1).Perm (p :: (st.1 ++ st.2.1)) := by simp
    simp only [Bool.false_eq_true, ↓reduceIte, List.filter_cons, hex, Bool.not_false, List.filter_nil]
    cases p.owner with
    | none => exact key _ kept
    | some uid =>
      dsimp only
      split
      · exact key _ (by simpa [List.append_assoc] using List.perm_append_singleton p (st.1 ++ st.2.1))
      · exact key _ kept
  · simpa [hex] using h

theorem prioritize_fold_perm (exRC : List Str) (pods seen : List PodObj) (st : List PodObj × List PodObj × List Str)
    (h : (st.1 ++ st.2.1).Perm (seen.filter (fun p => !exemptRC p.runtimeClass exRC))) :
    ((pods.foldl (prioStep exRC) st).1 ++ (pods.foldl (prioStep exRC) st).2.1).Perm
      ((seen ++ pods).filter (fun p => !exemptRC p.runtimeClass exRC)) := by
  induction pods generalizing st seen with
  | nil => simpa using h
  | cons p ps ih =>
    simp only [List.foldl_cons]
    have := ih (seen ++ [p]) (prioStep exRC st p) (prioStep_perm exRC st p seen h)
    simpa [List.append_assoc] using this

theorem prioritize_perm (exRC : List Str) (pods : List PodObj) :
    (prioritize exRC pods).Perm (pods.filter (fun p => !exemptRC p.runtimeClass exRC)) := by
  have := prioritize_fold_perm exRC pods [] ([], [], []) (by simp)
  simpa [prioritize] using this

theorem prioritize_length_le (exRC : List Str) (pods : List PodObj) : (prioritize exRC pods).length ≤ pods.length := by
  rw [(prioritize_perm exRC pods).length_eq]
  exact List.length_filter_le _ _

/-! ### ValidateNamespace -/

/-- the dry-run branch of `validateNamespace`: always allowed, one listing with the dry-run budget; the warnings and the
    evaluator calls are those of the dry run, or the one warning of a failed listing -/
def nsDryRun (cfg : Config) (lim : Limits) (w : World Ev) (name : Str) (lv : LevelVersion) : Resp × Eff :=
  let found : List Warning × List (LevelVersion × Str) := match w.listPods with
    | .error _ => ([.listFailed], [])
    | .ok pods => dryRun w.ev cfg.exRuntimeClasses lim.maxPods name lv pods w.expireAfter
  ({ allowed := true, warnings := found.1 },
   { evalCalls := found.2, listCalls := 1, listTimeout := dryRunTimeout lim.timeout w.remaining })

/-- **ValidateNamespace decides from the request alone** whether to answer at once — and then what, with no effect — or to
    dry-run the existing pods, and against which policy: neither depends on the world or the limits. -/
theorem validateNamespace_decision (pv : Str → Ver × Bool) (cfg : Config) (r : Request) :
    (∃ resp, ∀ lim w, validateNamespace pv cfg lim w r = (resp, {})) ∨
    (∃ name lv, ∀ lim w, validateNamespace pv cfg lim w r = nsDryRun cfg lim w name lv) := by
  -- walk the cascade: `cases` on a test replaces it by its value wherever it occurs, and each leaf then holds by `rfl`
  unfold validateNamespace
  cases r.sub with
  | cons => exact .inl ⟨_, fun _ _ => rfl⟩
  | nil =>
  rcases r.obj with _ | _ | ⟨name, labels⟩ | _ | _ | _
  case ok.ns =>
    dsimp only
    cases r.op
    case create =>
      dsimp only
      cases !(policyToEvaluate pv labels cfg.defaults).2.isEmpty
      case true => exact .inl ⟨_, fun _ _ => rfl⟩
      cases exempt r.ns cfg.exNamespaces <;> exact .inl ⟨_, fun _ _ => rfl⟩
    case update =>
      rcases r.old with _ | _ | ⟨_, oldLabels⟩ | _ | _ | _
      case ok.ns =>
        dsimp only
        cases !(policyToEvaluate pv labels cfg.defaults).2.isEmpty &&
          ((policyToEvaluate pv oldLabels cfg.defaults).2.isEmpty ||
            (policyToEvaluate pv labels cfg.defaults).2 != (policyToEvaluate pv oldLabels cfg.defaults).2)
        case true => exact .inl ⟨_, fun _ _ => rfl⟩
        cases skipDryRun (policyToEvaluate pv labels cfg.defaults).1.enforce (policyToEvaluate pv oldLabels cfg.defaults).1.enforce
        case true => exact .inl ⟨_, fun _ _ => rfl⟩
        cases exempt r.ns cfg.exNamespaces
        case true => exact .inl ⟨_, fun _ _ => rfl⟩
        exact .inr ⟨name, _, fun _ w => by unfold nsDryRun; cases w.listPods <;> rfl⟩
      all_goals exact .inl ⟨_, fun _ _ => rfl⟩
    all_goals exact .inl ⟨_, fun _ _ => rfl⟩
  all_goals exact .inl ⟨_, fun _ _ => rfl⟩

theorem validateNamespace_verdict (pv : Str → Ver × Bool) (cfg : Config) (lim : Limits) (w w' : World Ev) (r : Request) :
    (validateNamespace pv cfg lim w r).1.allowed = (validateNamespace pv cfg lim w' r).1.allowed ∧
    (validateNamespace pv cfg lim w r).1.code = (validateNamespace pv cfg lim w' r).1.code := by
  rcases validateNamespace_decision pv cfg r with ⟨_, h⟩ | ⟨_, _, h⟩ <;> rw [h, h]
  · exact ⟨rfl, rfl⟩
  · -- each side is computed before the two are compared (the kernel would otherwise first try to match the two dry runs)
    show true = true ∧ 0 = 0
    exact ⟨rfl, rfl⟩

end PSA
