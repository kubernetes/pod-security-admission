import Psa.Registry
import Psa.Digits
namespace PSA

structure LevelVersion where
  level : Level
  version : Ver
  deriving DecidableEq, Repr

structure Policy where
  enforce : LevelVersion
  audit : LevelVersion
  warn : LevelVersion
  deriving DecidableEq, Repr

def Policy.fullyPrivileged (p : Policy) : Bool :=
  p.enforce.level == .privileged && p.audit.level == .privileged && p.warn.level == .privileged

/-- ParseLevel: (level, ok). On error the level is restricted. -/
def parseLevel (s : Str) : Level × Bool :=
  if s = b!"privileged" then (.privileged, true)
  else if s = b!"baseline" then (.baseline, true)
  else if s = b!"restricted" then (.restricted, true)
  else (.restricted, false)

def Level.str : Level → Str
  | .privileged => b!"privileged"
  | .baseline => b!"baseline"
  | .restricted => b!"restricted"

/-- Version.String -/
def Ver.str : Ver → Str
  | .latest => b!"latest"
  | .mm a b => b!"v" ++ itoa a ++ b!"." ++ itoa b

/-- LevelVersion.String -/
def LevelVersion.str (lv : LevelVersion) : Str := lv.level.str ++ b!":" ++ lv.version.str

def maxInt64 : Nat := 9223372036854775807

/-- ParseVersion: (version, ok). On error the version is latest. `^v1\.([0-9]|[1-9][0-9]*)$` then strconv.Atoi,
    which rejects values above 2^63-1. -/
def parseVersion (s : Str) : Ver × Bool :=
  if s = b!"latest" then (.latest, true)
  else if b!"v1.".isPrefixOf s then
    let d := s.drop 3
    if canonicalDec d && decide (digitsVal d ≤ maxInt64) then (.mm 1 (digitsVal d), true) else (.latest, false)
  else (.latest, false)

/-- CompareLevels on valid levels -/
def compareLevels : Level → Level → Int
  | .privileged, .privileged => 0
  | .baseline, .baseline => 0
  | .restricted, .restricted => 0
  | .privileged, _ => -1
  | .restricted, _ => 1
  | .baseline, .privileged => 1
  | .baseline, .restricted => -1

abbrev Labels := List (Str × Str)
def Labels.get (l : Labels) (k : Str) : Option Str := (l.find? (·.1 = k)).map (·.2)

structure FieldErr where
  key : Str
  bad : Str
  deriving DecidableEq, Repr

def kEnforce := b!"pod-security.kubernetes.io/enforce"
def kEnforceV := b!"pod-security.kubernetes.io/enforce-version"
def kAudit := b!"pod-security.kubernetes.io/audit"
def kAuditV := b!"pod-security.kubernetes.io/audit-version"
def kWarn := b!"pod-security.kubernetes.io/warn"
def kWarnV := b!"pod-security.kubernetes.io/warn-version"

def errOf {α : Type} (k : Str) : Option ((α × Bool) × Str) → List FieldErr
  | some ((_, false), s) => [FieldErr.mk k s]
  | _ => []

def valOf {α : Type} (dflt : α) : Option ((α × Bool) × Str) → α
  | some ((a, _), _) => a
  | none => dflt

def okOf {α : Type} : Option ((α × Bool) × Str) → Bool
  | some ((_, ok), _) => ok
  | none => false

/-- audit / warn levels fail open -/
def openLevel (dflt : Level) : Option ((Level × Bool) × Str) → Level
  | some ((l, true), _) => l
  | some ((_, false), _) => .privileged
  | none => dflt

/-- PolicyToEvaluate, parametrised by the version parser (Ver × ok). -/
def policyToEvaluate (pv : Str → Ver × Bool) (labels : Labels) (d : Policy) : Policy × List FieldErr :=
  let e   := (labels.get kEnforce).map (fun s => (parseLevel s, s))
  let ev  := (labels.get kEnforceV).map (fun s => (pv s, s))
  let a   := (labels.get kAudit).map (fun s => (parseLevel s, s))
  let av  := (labels.get kAuditV).map (fun s => (pv s, s))
  let w   := (labels.get kWarn).map (fun s => (parseLevel s, s))
  let wv  := (labels.get kWarnV).map (fun s => (pv s, s))
  let eL := valOf d.enforce.level e
  let eV := valOf d.enforce.version ev
  let wL := openLevel d.warn.level w
  let wV := valOf d.warn.version wv
  let follow := !w.isSome && okOf e && decide (compareLevels eL wL > 0)
  let pol : Policy :=
    { enforce := ⟨eL, eV⟩
      audit := ⟨openLevel d.audit.level a, valOf d.audit.version av⟩
      warn := ⟨if follow then eL else wL, if follow && !wv.isSome then eV else wV⟩ }
  (pol, errOf kEnforce e ++ errOf kEnforceV ev ++ errOf kAudit a ++ errOf kAuditV av ++ errOf kWarn w ++ errOf kWarnV wv)

end PSA
