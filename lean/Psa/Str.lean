/-! Strings as UTF-8 byte lists; Go-compatible helpers. -/
namespace PSA
abbrev Str := List Nat

open Lean in
macro:max "b!" s:str : term => do
  let bytes := s.getString.toUTF8.toList.map (·.toNat)
  let lits ← bytes.mapM (fun n => `($(Syntax.mkNumLit (toString n))))
  `(([$[$(lits.toArray)],*] : List Nat))

def Str.ofString (s : String) : Str := s.toUTF8.toList.map (·.toNat)
def Str.toString (s : Str) : String :=
  (String.fromUTF8? (ByteArray.mk (s.map (·.toUInt8)).toArray)).getD "<invalid utf8>"

/-- strings.Join -/
def Str.join (sep : Str) : List Str → Str
  | [] => []
  | [a] => a
  | a :: b :: rest => a ++ sep ++ Str.join sep (b :: rest)

/-- insertion into a list sorted by Go's bytewise `<`, dropping duplicates (sets.String.List()) -/
def insertDedup (x : Str) : List Str → List Str
  | [] => [x]
  | y :: ys => if x < y then x :: y :: ys else if x = y then y :: ys else y :: insertDedup x ys
def sortDedup (l : List Str) : List Str := l.foldr insertDedup []

/-- sort.Strings -/
def insertStr (x : Str) : List Str → List Str
  | [] => [x]
  | y :: ys => if x < y then x :: y :: ys else y :: insertStr x ys
def sortStrs (l : List Str) : List Str := l.foldr insertStr []

def pluralize (s p : Str) (n : Nat) : Str := if n = 1 then s else p

/-- policy.joinQuote -/
def joinQuote (l : List Str) : Str :=
  if l.isEmpty then [] else b!"\"" ++ Str.join b!"\", \"" l ++ b!"\""

def hexDigit (n : Nat) : Nat := if n < 10 then 48 + n else 87 + n

/-- strconv.Quote on bytes: printable ASCII, the named escapes, \xNN for other control bytes; bytes ≥ 0x80 pass
    through (valid, printable UTF-8 is assumed there — the text-comparing generators stay inside that alphabet). -/
def quoteByte (c : Nat) : Str :=
  if c = 34 then b!"\\\"" else if c = 92 then b!"\\\\"
  else if c = 7 then b!"\\a" else if c = 8 then b!"\\b" else if c = 12 then b!"\\f" else if c = 10 then b!"\\n"
  else if c = 13 then b!"\\r" else if c = 9 then b!"\\t" else if c = 11 then b!"\\v"
  else if c < 32 ∨ c = 127 then [92, 120, hexDigit (c / 16), hexDigit (c % 16)]
  else [c]
def goQuote (s : Str) : Str := b!"\"" ++ s.flatMap quoteByte ++ b!"\""

theorem snoc_induction {α : Type} {motive : List α → Prop} (nil : motive [])
    (snoc : ∀ l x, motive l → motive (l ++ [x])) : ∀ l, motive l := by
  intro l
  rw [← l.reverse_reverse]
  induction l.reverse with
  | nil => exact nil
  | cons x xs ih => rw [List.reverse_cons]; exact snoc _ x ih

namespace Str

/-- the separator stands between two joined lists exactly when neither is empty -/
theorem join_append (sep : Str) (xs ys : List Str) :
    join sep (xs ++ ys) = join sep xs ++ (if xs.isEmpty || ys.isEmpty then [] else sep) ++ join sep ys := by
  fun_induction join sep xs with
  | case1 => simp
  | case2 a => cases ys <;> simp [join]
  | case3 a b rest ih => simpa [join] using ih

end Str

/-! ### general lemmas (no strings in them) that several modules need -/

/-- One test in a chain of early returns: what the early answer does not satisfy holds of the whole exactly when the test
    fails and it holds of the rest. -/
theorem ite_iff_of_not {α : Sort _} (P : α → Prop) {a : Prop} [Decidable a] {x : α} (y : α) (hx : ¬ P x) :
    P (if a then x else y) ↔ ¬ a ∧ P y := by
  split <;> simp [*]

/-! The fold that keeps the first occurrence of each key, in order (`keysOf`, `distinctInOrder`). -/

theorem mem_foldl_firsts {α β : Type} [BEq β] [LawfulBEq β] (f : α → β) (l : List α) (acc : List β) (b : β) :
    b ∈ l.foldl (fun acc x => if f x ∈ acc then acc else acc ++ [f x]) acc ↔ b ∈ acc ∨ ∃ x ∈ l, f x = b := by
  induction l generalizing acc with
  | nil => simp
  | cons y ys ih =>
    rw [List.foldl_cons, ih]
    by_cases h : f y ∈ acc
    · simp only [if_pos h, List.mem_cons, exists_eq_or_imp]
      exact ⟨fun h' => h'.imp_right .inr, fun h' => h'.elim .inl (·.elim (· ▸ .inl h) .inr)⟩
    · simp [h, or_assoc, eq_comm]

theorem nodup_foldl_firsts {α β : Type} [BEq β] [LawfulBEq β] (f : α → β) (l : List α) (acc : List β) (h : acc.Nodup) :
    (l.foldl (fun acc x => if f x ∈ acc then acc else acc ++ [f x]) acc).Nodup := by
  induction l generalizing acc with
  | nil => exact h
  | cons y ys ih =>
    rw [List.foldl_cons]
    apply ih
    split
    · exact h
    · next hy => exact List.nodup_append.mpr ⟨h, by simp, fun a ha b hb => by
        rw [List.mem_singleton.mp hb]; exact fun hab => hy (hab ▸ ha)⟩

end PSA
