import Psa.Eval
import Psa.SubsetOrder
import Psa.Generated.Tables
/-! Bridges between what the driver computes (`evalPodModel`, `aggregate`) and the statements of C02 / C03. -/
namespace PSA

theorem aggregate_allowed_iff (rs : List CheckResult) : (aggregate rs).allowed = true ↔ ∀ r ∈ rs, r.allowed = true := by
  simp [aggregate, List.filter_eq_nil_iff]

theorem evalPodModel_allowed (T : Tables) (relax : Bool) (lv : LevelVersion) (p : Pod) :
    (aggregate (evalPodModel T relax lv p)).allowed = allowedAll (evalShipped T relax lv.level lv.version p) := by
  rw [Bool.eq_iff_iff, aggregate_allowed_iff, evalShipped, allowedAll_map, evalPodModel, List.forall_mem_map]
  simp only [runRev, render_allowed]

theorem apiValid_tables (T : Tables) (hw : T.windows = b!"windows") (p : Pod) : ApiValid p ↔ ApiValidT T p := by
  simp only [ApiValid, ApiValidT, Pod.isWindows, Pod.windowsOS, hw]

/-- a requested version is `latest` or `v1.N` (all `ParseVersion` can produce) -/
def Ver.requestable (v : Ver) : Prop := v = .latest ∨ ∃ n, v = .mm 1 n

/-- which revisions run, and in which order, is the Standard's list for the level and version -/
theorem evalPodModel_stdRevs (T : Tables) (relax : Bool) (l : Level) (v : Ver) (p : Pod) (hv : v.requestable) :
    evalPodModel T relax ⟨l, v⟩ p = (stdRevs l v).map (fun r => runRev T relax r p) := by
  rw [evalPodModel, shipped_evaluate l v hv]

end PSA
