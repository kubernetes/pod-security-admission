import Psa.Api
import Psa.Result
namespace PSA

/-- what the admission layer sees of a pod -/
structure PodView (P : Type) where
  pod : P
  runtimeClass : Option Str

structure Config where
  defaults : Policy
  exNamespaces : List Str
  exUsers : List Str
  exRuntimeClasses : List Str

def exempt (s : Str) (l : List Str) : Bool := s ≠ [] && l.contains s
def exemptRC (rc : Option Str) (l : List Str) : Bool := match rc with | some s => exempt s l | none => false

inductive Metric
  | eval (allow : Bool) (lv : LevelVersion) (mode : Nat)   -- 0 enforce 1 audit 2 warn
  | exemption
  | error (fatal : Bool)
  deriving DecidableEq, Repr

structure Response where
  allowed : Bool
  code : Nat := 0
  reason : Str := []
  enforcedLV : Option LevelVersion := none     -- token in the 403 message
  details : Option Agg := none
  warnings : List (LevelVersion × Agg) := []
  annExempt : Option Str := none
  annError : Bool := false
  annEnforce : Option LevelVersion := none
  annAudit : Option (LevelVersion × Agg) := none
  deriving DecidableEq, Repr

structure Out where
  resp : Response
  metrics : List Metric := []
  evalCalls : List LevelVersion := []

abbrev Evaluator (P : Type) := LevelVersion → P → List CheckResult

/-- the `cachedResults` map -/
abbrev Cache := List (LevelVersion × Agg)
def cacheGet (c : Cache) (lv : LevelVersion) : Option Agg := (c.find? (·.1 = lv)).map (·.2)

/-- EvaluatePod (after the runtime-class exemption test) -/
def evaluatePod {P} (ev : Evaluator P) (cfg : Config) (pol : Policy) (polErr : Bool) (pv : PodView P) (enforce : Bool) : Out :=
  if exemptRC pv.runtimeClass cfg.exRuntimeClasses then
    { resp := { allowed := true, annExempt := some b!"runtimeClass" }, metrics := [.exemption] }
  else
    let m0 : List Metric := if polErr then [.error false] else []
    -- enforce
    let (cache, calls, denied, m1) :=
      if enforce then
        let r := aggregate (ev pol.enforce pv.pod)
        (([(pol.enforce, r)] : Cache), [pol.enforce], !r.allowed, [Metric.eval r.allowed pol.enforce 0])
      else (([] : Cache), [], false, [])
    let enfAgg := cacheGet cache pol.enforce
    -- audit
    let (auditR, cache, calls) := match cacheGet cache pol.audit with
      | some r => (r, cache, calls)
      | none => let r := aggregate (ev pol.audit pv.pod); (r, cache ++ [(pol.audit, r)], calls ++ [pol.audit])
    let m2 : List Metric := if auditR.allowed then [] else [.eval false pol.audit 1]
    -- warn
    let (warns, calls, m3) :=
      if denied then (([] : List (LevelVersion × Agg)), calls, ([] : List Metric))
      else
        let (warnR, calls) := match cacheGet cache pol.warn with
          | some r => (r, calls)
          | none => (aggregate (ev pol.warn pv.pod), calls ++ [pol.warn])
        if warnR.allowed then ([], calls, []) else ([(pol.warn, warnR)], calls, [.eval false pol.warn 2])
    { resp :=
        { allowed := !denied
          code := if denied then 403 else 0
          reason := if denied then b!"Forbidden" else []
          enforcedLV := if denied then some pol.enforce else none
          details := if denied then enfAgg else none
          warnings := warns
          annError := polErr
          annEnforce := if enforce then some pol.enforce else none
          annAudit := if auditR.allowed then none else some (pol.audit, auditR) }
      metrics := m0 ++ m1 ++ m2 ++ m3
      evalCalls := calls }

/-- first occurrences, in order -/
def distinctInOrder (l : List LevelVersion) : List LevelVersion :=
  l.foldl (fun acc x => if x ∈ acc then acc else acc ++ [x]) []

end PSA
